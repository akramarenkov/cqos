import Cqos.Facts.Generated
/-
  Expectations about the fact tables of Cqos/Facts/Generated.lean, which is rewritten from /repo's
  working tree on every check run: one module per property beside this one, so that a change of
  structure breaks the obligations of the properties that depend on it and no others.  Each
  expectation is checked by evaluation in the kernel: by `decide +kernel` where it is a test, by
  `rfl` where it equates a table computed from the generated one with a literal table (the kernel
  then compares string literals as they stand, which costs far less than deciding their equality
  character by character).

  `callseq` holds, for the functions that only the disciplines' own goroutines execute or that the
  user calls, the calls made through the receiver (with their argument text), channel operations,
  `time.*` calls and the control skeleton, in source order, with local variables renamed
  `$1, $2, …` in order of first appearance; `ctors` holds the top-level statements of every `New*`
  (kind and target).  The Glue and Ctors modules pin them to the composition and the creation
  that the step machines assume.
-/
namespace Cqos.Facts

def defersOf (pkg typ fn : String) : List String :=
  match defers.find? (fun r => r.1 == pkg && r.2.1 == typ && r.2.2.1 == fn) with
  | some r => r.2.2.2
  | none => []

/-- what a goroutine still executes after one of its deferred calls `sig` has run: deferred
    calls run in reverse registration order, after the body has returned -/
def afterSignal (sig : String) (ds : List String) : List String :=
  (ds.reverse.dropWhile (fun d => !(d == sig))).drop 1

/-- general fact: a deferred call registered first (and only once) is the last thing the
    goroutine ever executes -/
theorem afterSignal_head (sig : String) (rest : List String) (h : sig ∉ rest) :
    afterSignal sig (sig :: rest) = [] := by
  have hr : ∀ d ∈ rest.reverse, (!(d == sig)) = true := fun d hd => by
    have hne : d ≠ sig := fun e => h (e ▸ List.mem_reverse.mp hd)
    simp [hne]
  rw [afterSignal, List.reverse_cons, List.dropWhile_append_of_pos hr]
  simp [List.dropWhile]

end Cqos.Facts
