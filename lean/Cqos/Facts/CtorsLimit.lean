import Cqos.Facts.Defs
/- What `ctors` holds is said in Defs.lean. -/
namespace Cqos.Facts

def ctorsLimitExpected : List (String × String × List (String × String)) := [
  ("v2/limit", "New", [("if", ""), ("assign", "dsc"), ("go", "dsc.main"), ("return", "")])
]

/-- limit: validation, struct (the rate is used as given), goroutine last -/
theorem ctorsLimit : ctors.filter (fun r => r.1 == "v2/limit") = ctorsLimitExpected := by rfl

end Cqos.Facts
