import Cqos.Facts.Defs
/- What `callseq` holds is said in Defs.lean. -/
namespace Cqos.Facts

def glueJoinExpected : List (String × String × String × List String) := [
  ("v2/join", "Discipline", "Release", ["dsc.release <- struct{}{}"]),
  ("v2/join", "Discipline", "main", ["if dsc.interruptInterval == 0", "dsc.loopUntimeouted()", "return", "dsc.loop()"]),
  ("v2/join", "Discipline", "loop", ["dsc.pass()", "time.NewTicker(dsc.interruptInterval)", "for", "<-$1.C", "if dsc.isTimeouted()", "dsc.isTimeouted()", "dsc.pass()", "<-dsc.opts.Input", "if !$3", "return", "dsc.process($2)"]),
  ("v2/join", "Discipline", "loopUntimeouted", ["dsc.pass()", "for", "dsc.process($1)"]),
  ("v2/join/unite", "Discipline", "Release", ["dsc.release <- struct{}{}"]),
  ("v2/join/unite", "Discipline", "main", ["if dsc.interruptInterval == 0", "dsc.loopUntimeouted()", "return", "dsc.loop()"]),
  ("v2/join/unite", "Discipline", "loop", ["dsc.pass()", "time.NewTicker(dsc.interruptInterval)", "for", "<-$1.C", "if dsc.isTimeouted()", "dsc.isTimeouted()", "dsc.pass()", "<-dsc.opts.Input", "if !$3", "return", "dsc.process($2)"]),
  ("v2/join/unite", "Discipline", "loopUntimeouted", ["dsc.pass()", "for", "dsc.process($1)"]),
  ("join", "Discipline", "Stop", ["dsc.breaker.Break()"]),
  ("join", "Discipline", "main", ["dsc.breaker.Complete()", "if dsc.interruptInterval == 0", "dsc.loopUntimeouted()", "return", "dsc.loop()"]),
  ("join", "Discipline", "loop", ["dsc.pass()", "time.NewTicker(dsc.interruptInterval)", "for", "<-dsc.breaker.IsBreaked()", "dsc.breaker.IsBreaked()", "return", "<-dsc.opts.Ctx.Done()", "dsc.opts.Ctx.Done()", "return", "<-$1.C", "if dsc.isTimeouted()", "dsc.isTimeouted()", "dsc.pass()", "<-dsc.opts.Input", "if !$3", "return", "dsc.process($2)"]),
  ("join", "Discipline", "loopUntimeouted", ["dsc.pass()", "for", "<-dsc.breaker.IsBreaked()", "dsc.breaker.IsBreaked()", "return", "<-dsc.opts.Ctx.Done()", "dsc.opts.Ctx.Done()", "return", "<-dsc.opts.Input", "if !$2", "return", "dsc.process($1)"])
]

/-- join / unite: `main` picks `loopUntimeouted` iff the interrupt interval is zero; both loops end with the deferred `pass`; the timed loop passes on a tick only when `isTimeouted` -/
theorem glueJoin : callseq.filter (fun r => r.1 == "v2/join" || r.1 == "v2/join/unite" || r.1 == "join") = glueJoinExpected := by rfl

end Cqos.Facts
