import Cqos.Facts.Defs
namespace Cqos.Facts

def hasStopCases (cases : List (String × Bool)) : Bool :=
  cases.contains ("<-dsc.breaker.IsBreaked()", true) && cases.contains ("<-dsc.opts.Ctx.Done()", true)

/-- every `select` of v1 priority.Discipline and v1 join.Discipline has both stop cases, each
    returning — except the two that cannot block: the graceful test (`default`) and the
    `isStopped` test introduced by the repair of D3 (also `default`) -/
theorem c16_selects_offer_stop :
    ((selects.filter (fun r => (r.1 == "priority" && r.2.1 == "Discipline") || (r.1 == "join" && r.2.1 == "Discipline"))).all
      (fun r => hasStopCases r.2.2.2 || r.2.2.2.contains ("default", false))) = true := by
  decide +kernel

end Cqos.Facts
