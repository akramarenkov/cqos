import Cqos.Facts.Defs
/- What `ctors` holds is said in Defs.lean. -/
namespace Cqos.Facts

def ctorsPrioExpected : List (String × String × List (String × String)) := [
  ("v2/priority", "New", [("if", ""), ("assign", "capacity"), ("assign", "feedbackLimit"), ("assign", "inputs"), ("if", ""), ("assign", "dsc"), ("go", "dsc.main"), ("return", "")]),
  ("v2/priority/simple", "New", [("if", ""), ("assign", "priorityOpts"), ("assign", "priority"), ("if", ""), ("assign", "dsc"), ("call", "dsc.main()"), ("return", "")]),
  ("priority", "New", [("if", ""), ("assign", "feedbackLimit"), ("assign", "dsc"), ("call", "dsc.updateInputs(opts.Inputs)"), ("go", "dsc.main"), ("return", "")]),
  ("priority", "NewSimple", [("if", ""), ("assign", "opts"), ("assign", "capacity"), ("assign", "output"), ("assign", "feedback"), ("assign", "priorityOpts"), ("assign", "priority"), ("if", ""), ("assign", "smpl"), ("go", "smpl.main"), ("return", "")])
]

/-- priority disciplines: validation, capacities, `prepare` / `updateInputs` (the caller's Inputs map is read here, before the constructor returns), struct, goroutine last -/
theorem ctorsPrio : ctors.filter (fun r => r.1 == "v2/priority" || r.1 == "v2/priority/simple" || r.1 == "priority") = ctorsPrioExpected := by rfl

end Cqos.Facts
