import Cqos.Facts.Defs
/- What `callseq` holds is said in Defs.lean. -/
namespace Cqos.Facts

def gluePrioV2Expected : List (String × String × String × List String) := [
  ("v2/priority", "Discipline", "Release", ["dsc.feedback <- $1"]),
  ("v2/priority", "Discipline", "main", ["dsc.interrupter.Stop()", "if $1 != nil", "dsc.loop()", "dsc.err <- $1"]),
  ("v2/priority", "Discipline", "loop", ["dsc.waitZeroActual()", "for", "dsc.base()", "if $2 != nil", "return", "if $1 == 0", "if dsc.isDrainedInputs()", "dsc.isDrainedInputs()", "return", "time.Sleep(defaultIdleDelay)", "dsc.getLimitedFeedback()"]),
  ("v2/priority/simple", "Discipline", "main", ["for", "dsc.handler()"]),
  ("v2/priority/simple", "Discipline", "handler", ["for", "dsc.priority.Output()", "dsc.opts.Handle($1.Item)", "dsc.priority.Release($1.Priority)"])
]

/-- v2 priority: `loop` = deferred `waitZeroActual`; repeat `base`, error exit, exit test `processed == 0 && isDrainedInputs`, `getLimitedFeedback`; simplified handler: `Handle` then `Release` -/
theorem gluePrioV2 : callseq.filter (fun r => r.1 == "v2/priority" || r.1 == "v2/priority/simple") = gluePrioV2Expected := by rfl

end Cqos.Facts
