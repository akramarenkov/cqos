import Cqos.Facts.Defs
namespace Cqos.Facts

abbrev MethodRow := String × Bool × List String × List String × List String

def methodsOf (pkg typ : String) : List MethodRow :=
  (methods.filter (fun r => r.1 == pkg && r.2.1 == typ)).map (fun r => r.2.2)

def addNew (acc : List String) : List String → List String
  | [] => acc
  | x :: xs => if acc.contains x then addNew acc xs else addNew (acc ++ [x]) xs

/-- methods reachable from `roots` through receiver-method calls (fuel-bounded closure) -/
def reach (ms : List MethodRow) : Nat → List String → List String
  | 0, acc => acc
  | n + 1, acc =>
    reach ms n (addNew acc ((ms.filter (fun m => acc.contains m.1)).flatMap (fun m => m.2.2.2.2)))

def writtenBy (ms : List MethodRow) (fs : List String) : List String :=
  addNew [] ((ms.filter (fun m => fs.contains m.1)).flatMap (fun m => m.2.2.1))

def accessedBy (ms : List MethodRow) (fs : List String) : List String :=
  addNew [] ((ms.filter (fun m => fs.contains m.1)).flatMap (fun m => m.2.2.1 ++ m.2.2.2.1))

/-- exported methods of the type (the API other goroutines call) -/
def apiRoots (ms : List MethodRow) : List String := (ms.filter (fun m => m.2.1)).map (·.1)

/-- fields written by anything reachable from `main` are neither read nor written by anything
    reachable from an exported method or from the extra goroutine roots (handlers) -/
def confined (pkg typ : String) (extraRoots : List String) : Bool :=
  let ms := methodsOf pkg typ
  let mainSet := reach ms 12 ["main"]
  let apiSet := reach ms 12 (apiRoots ms ++ extraRoots)
  let w := writtenBy ms mainSet
  let a := accessedBy ms apiSet
  w.all (fun f => !a.contains f)

/-- non-vacuity of the confinement check: the main goroutine does write scheduler state, and
    the API touches only channels -/
theorem c20_main_writes :
    writtenBy (methodsOf "v2/priority" "Discipline") (reach (methodsOf "v2/priority" "Discipline") 12 ["main"]) =
      ["inputs", "actual", "tactic", "uncrowded", "useful"] ∧
    accessedBy (methodsOf "v2/priority" "Discipline") (reach (methodsOf "v2/priority" "Discipline") 12 (apiRoots (methodsOf "v2/priority" "Discipline"))) =
      ["output", "feedback", "err"] := by decide +kernel

theorem c20_confined :
    confined "v2/priority" "Discipline" [] = true ∧
    confined "priority" "Discipline" [] = true ∧
    confined "priority" "Simple" ["handler"] = true ∧
    confined "v2/priority/simple" "Discipline" ["handler"] = true ∧
    confined "v2/join" "Discipline" [] = true ∧
    confined "v2/join/unite" "Discipline" [] = true ∧
    confined "join" "Discipline" [] = true ∧
    confined "v2/limit" "Discipline" [] = true := by
  refine ⟨?_, by decide +kernel⟩
  -- the sets of the v2 priority discipline are those of `c20_main_writes`
  simp only [confined, List.append_nil, c20_main_writes.1, c20_main_writes.2]
  decide

def afterGo : List (String × String) → Option (List (String × String))
  | [] => none
  | (k, _) :: rest => if k == "go" then some rest else afterGo rest

def ctorOK (kinds : List (String × String)) : Bool :=
  match afterGo kinds with
  | none => true               -- no goroutine started here (v2 simple: started in main)
  | some rest => rest.all (fun k => k.1 == "return")

/-- every constructor starts its goroutine last: after the `go` statement only `return`
    follows, so every constructor write happens-before the goroutine starts -/
theorem c20_ctors : (ctors.all (fun r => ctorOK r.2.2)) = true := by decide +kernel

end Cqos.Facts
