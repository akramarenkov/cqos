import Cqos.Facts.Defs
namespace Cqos.Facts

/-- the command channels of v1 `AddInput` / `RemoveInput` are unbuffered, so the caller
    returns only when the loop-top `select` has received the command (the machine's `top add` /
    `top remove` step is the return of the call) -/
theorem c17_commands_unbuffered :
    chanmakes.contains ("priority", "New", "inputAdds", "") = true ∧
    chanmakes.contains ("priority", "New", "inputRmvs", "") = true := by decide +kernel

end Cqos.Facts
