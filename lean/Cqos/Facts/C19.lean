import Cqos.Facts.Defs
namespace Cqos.Facts

/-- exactly one `go main` per constructor, `HandlersQuantity` × `go handler` (inside a loop)
    in the simplified disciplines, and nothing else -/
def expectedSpawns : List (String × String × String × String × Bool) := [
  ("v2/priority", "", "New", "dsc.main", false),
  ("v2/priority/simple", "Discipline", "main", "dsc.handler", true),
  ("priority", "", "New", "dsc.main", false),
  ("priority", "", "NewSimple", "smpl.main", false),
  ("priority", "Simple", "main", "smpl.handler", true),
  ("priority", "Simple", "gracefulStop", "func() { defer close(done) smpl.priority.GracefulStop() }", false),
  ("v2/join", "", "New", "dsc.main", false),
  ("v2/join/unite", "", "New", "dsc.main", false),
  ("join", "", "New", "dsc.main", false),
  ("v2/limit", "", "New", "dsc.main", false)
]

theorem c19_spawn_table : spawns = expectedSpawns := by rfl

/-- the deferred calls of every `main`, in source order (they run in reverse): the
    termination signal (closing `err` / `output`, `breaker.Complete`) is registered FIRST, so
    it is the LAST thing a main goroutine does; nothing is closed before `loop` returns;
    tickers are stopped; v1 Simple waits for its handlers (`wg.Wait`) before signalling and
    stops the inner discipline before cancelling the handlers' context. -/
theorem c19_main_defers :
    defersOf "v2/priority" "Discipline" "main" = ["close(dsc.err)", "close(dsc.output)", "close(dsc.feedback)", "dsc.interrupter.Stop()"] ∧
    defersOf "v2/priority" "Discipline" "loop" = ["dsc.waitZeroActual()"] ∧
    defersOf "priority" "Discipline" "main" = ["dsc.breaker.Complete()", "dsc.graceful.Complete()", "close(dsc.err)", "close(dsc.inputAdds)", "close(dsc.inputRmvs)", "dsc.interrupter.Stop()"] ∧
    defersOf "priority" "Discipline" "loop" = ["dsc.waitZeroActual()"] ∧
    defersOf "priority" "Simple" "main" = ["smpl.breaker.Complete()", "smpl.graceful.Complete()", "close(smpl.err)", "close(smpl.output)", "close(smpl.feedback)", "smpl.wg.Wait()", "cancel()", "smpl.priority.Stop()"] ∧
    defersOf "priority" "Simple" "handler" = ["smpl.wg.Done()"] ∧
    defersOf "v2/join" "Discipline" "main" = ["close(dsc.output)", "close(dsc.release)"] ∧
    defersOf "v2/join" "Discipline" "loop" = ["dsc.pass()", "ticker.Stop()"] ∧
    defersOf "v2/join" "Discipline" "loopUntimeouted" = ["dsc.pass()"] ∧
    defersOf "v2/join/unite" "Discipline" "main" = ["close(dsc.output)", "close(dsc.release)"] ∧
    defersOf "v2/join/unite" "Discipline" "loop" = ["dsc.pass()", "ticker.Stop()"] ∧
    defersOf "v2/join/unite" "Discipline" "loopUntimeouted" = ["dsc.pass()"] ∧
    defersOf "join" "Discipline" "main" = ["dsc.breaker.Complete()", "close(dsc.output)"] ∧
    defersOf "join" "Discipline" "loop" = ["dsc.pass()", "ticker.Stop()"] ∧
    defersOf "join" "Discipline" "loopUntimeouted" = ["dsc.pass()"] ∧
    defersOf "v2/limit" "Discipline" "main" = ["close(dsc.output)"] :=
  ⟨rfl, rfl, rfl, rfl, rfl, rfl, rfl, rfl, rfl, rfl, rfl, rfl, rfl, rfl, rfl, rfl⟩

/-- the termination signals the API waits on (`Err()`/`Output()` closed, `Stop` =
    `breaker.Break(); … <-breaker.IsCompleted()`): after the signal the main goroutine of
    every discipline executes nothing at all -/
theorem c19_nothing_after_signal :
    afterSignal "close(dsc.err)" (defersOf "v2/priority" "Discipline" "main") = [] ∧
    afterSignal "dsc.breaker.Complete()" (defersOf "priority" "Discipline" "main") = [] ∧
    afterSignal "smpl.breaker.Complete()" (defersOf "priority" "Simple" "main") = [] ∧
    afterSignal "close(dsc.output)" (defersOf "v2/join" "Discipline" "main") = [] ∧
    afterSignal "close(dsc.output)" (defersOf "v2/join/unite" "Discipline" "main") = [] ∧
    afterSignal "dsc.breaker.Complete()" (defersOf "join" "Discipline" "main") = [] ∧
    afterSignal "close(dsc.output)" (defersOf "v2/limit" "Discipline" "main") = [] ∧
    -- v1 Simple: before the signal the handlers have been cancelled and waited for, and the
    -- inner discipline stopped (execution order = reverse registration order)
    (defersOf "priority" "Simple" "main").reverse.take 3 = ["smpl.priority.Stop()", "cancel()", "smpl.wg.Wait()"] := by
  -- each signal is the first deferred call `c19_main_defers` lists for its `main`, and occurs there once
  simp only [c19_main_defers]
  refine ⟨?_, ?_, ?_, ?_, ?_, ?_, ?_, rfl⟩ <;> exact afterSignal_head _ _ (by decide +kernel)

/-- the helper goroutine of v1 Simple.gracefulStop (repair of defect D4) signals `done` as its
    last action, and gracefulStop does not return before `done`: either the select's `<-done`
    case (the only returning case), or — after the stop cases — the inner discipline is stopped
    and `<-done` is awaited as the last statement.  So the helper never outlives main. -/
theorem c19_helper_joined :
    spawners = [("priority", "Simple", "gracefulStop",
      [("assign", "done"), ("go", "func() { defer close(done) smpl.priority.GracefulStop() }"), ("select", ""),
       ("call", "smpl.priority.Stop()"), ("call", "<-done")])] ∧
    selects.contains ("priority", "Simple", "gracefulStop",
      [("<-done", true), ("<-smpl.breaker.IsBreaked()", false), ("<-smpl.opts.Ctx.Done()", false)]) = true :=
  ⟨by rfl, by decide +kernel⟩

/-- the handler goroutines end when the discipline does: v2's handler is one `range` over the
    discipline's output (closed by main), v1's handler returns on `ctx.Done()` in each of its
    two selects (main cancels the context before `wg.Wait`) -/
theorem c19_handlers_exit :
    ranges.contains ("v2/priority/simple", "Discipline", "handler", "dsc.priority.Output()") = true ∧
    ((selects.filter (fun r => r.1 == "priority" && r.2.1 == "Simple" && r.2.2.1 == "handler")).all
      (fun r => r.2.2.2.contains ("<-ctx.Done()", true))) = true ∧
    (selects.filter (fun r => r.1 == "priority" && r.2.1 == "Simple" && r.2.2.1 == "handler")).length = 2 := by
  decide +kernel

/-- C19 / C07: the error channels have room for the one value `main` writes before it
    returns, so the write cannot block a terminating goroutine -/
theorem c19_err_buffered :
    chanmakes.contains ("v2/priority", "New", "err", "1") = true ∧
    chanmakes.contains ("priority", "New", "err", "1") = true ∧
    chanmakes.contains ("priority", "NewSimple", "err", "1") = true := by decide +kernel

end Cqos.Facts
