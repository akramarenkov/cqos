import Cqos.Facts.Defs
namespace Cqos.Facts

/-- the release channels of the v2 batching disciplines are unbuffered: `Release()`
    returns only when the discipline has taken the release (the machine's `release` step) -/
theorem c08_release_unbuffered :
    chanmakes.contains ("v2/join", "New", "release", "") = true ∧
    chanmakes.contains ("v2/join/unite", "New", "release", "") = true := by decide +kernel

end Cqos.Facts
