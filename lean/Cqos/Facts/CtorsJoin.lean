import Cqos.Facts.Defs
/- What `ctors` holds is said in Defs.lean. -/
namespace Cqos.Facts

def ctorsJoinExpected : List (String × String × List (String × String)) := [
  ("v2/join", "New", [("if", ""), ("assign", "opts"), ("assign", "interval"), ("if", ""), ("assign", "dsc"), ("call", "dsc.resetPassAt()"), ("go", "dsc.main"), ("return", "")]),
  ("v2/join/unite", "New", [("if", ""), ("assign", "opts"), ("assign", "interval"), ("if", ""), ("assign", "dsc"), ("call", "dsc.resetPassAt()"), ("go", "dsc.main"), ("return", "")]),
  ("join", "New", [("if", ""), ("assign", "opts"), ("assign", "interval"), ("if", ""), ("assign", "dsc"), ("call", "dsc.resetPassAt()"), ("go", "dsc.main"), ("return", "")])
]

/-- join / unite: validation, interrupt interval, struct, `resetPassAt()` (the timeout runs from creation), goroutine last -/
theorem ctorsJoin : ctors.filter (fun r => r.1 == "v2/join" || r.1 == "v2/join/unite" || r.1 == "join") = ctorsJoinExpected := by rfl

end Cqos.Facts
