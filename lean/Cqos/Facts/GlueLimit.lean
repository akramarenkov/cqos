import Cqos.Facts.Defs
/- What `callseq` holds is said in Defs.lean. -/
namespace Cqos.Facts

def glueLimitExpected : List (String × String × String × List String) := [
  ("v2/limit", "Discipline", "main", ["dsc.loop()"]),
  ("v2/limit", "Discipline", "loop", ["for", "dsc.transfer()", "if $2", "return", "dsc.delay($1)"]),
  ("v2/limit", "Discipline", "transfer", ["time.Now()", "if $2", "dsc.pass()", "return", "return", "time.Since($1)"])
]

/-- limit: `main` = `loop` then close (deferred); `loop` = transfer, stop test, `delay(duration)`; `transfer` = clock reading, `pass`, elapsed time -/
theorem glueLimit : callseq.filter (fun r => r.1 == "v2/limit") = glueLimitExpected := by rfl

end Cqos.Facts
