import Cqos.Lemmas.Step
/-
  Two case principles read off `Step`, for either version of the discipline.
  `step_delivery`: what a transition does to the deliveries, the in-flight table, the channels
  and the arrivals.  `poll_next`: the move `prioritize` makes on its head priority, chosen by the
  state of that priority's input, with the state it leads to.
-/
namespace Cqos

inductive StepDelivery (s : St) (a : Act) (s' : St) : Prop
  | item (p : Nat) (inp : Input) (ch : Chan) (x : Nat) (q : List Nat) (hP : Polls s p inp ch) (hq : ch.queue = x :: q)
      (hd : s'.delivered = s.delivered ++ [(p, inp.chan, x)]) (hi : s'.inflight = s.inflight.add p 1)
      (hc : s'.chans = alSet s.chans inp.chan { ch with queue := q }) (har : s'.arrived = s.arrived)
  | other (hd : s'.delivered = s.delivered)
      (hi : s'.inflight = s.inflight ∨ ∃ p, a = .release p ∧ s'.inflight = s.inflight.set p (s.inflight.get p - 1))
      (har : s'.arrived = s.arrived ∨ ∃ c x, a = .arrive c x)
      (hc : s'.chans = s.chans ∨ (∃ c x, a = .arrive c x) ∨ (∃ c, a = .close c) ∨
        s.cfg.v1 = true ∧ (a = .pollDrop ∨ ∃ c, a = .top c))

theorem step_delivery {div : DivFn} {s s' : St} {a : Act} (hs : Step div s a s') : StepDelivery s a s' := by
  have same : ∀ {u : St}, u.delivered = s.delivered → u.inflight = s.inflight → u.arrived = s.arrived →
      u.chans = s.chans → StepDelivery s a u := fun h1 h2 h3 h4 => .other h1 (.inl h2) (.inl h3) (.inl h4)
  cases hs with
  | arrive _ _ => exact .other rfl (.inl rfl) (.inr ⟨_, _, rfl⟩) (.inr (.inl ⟨_, _, rfl⟩))
  | close _ => exact .other rfl (.inl rfl) (.inl rfl) (.inr (.inr (.inl ⟨_, rfl⟩)))
  | release _ => exact .other rfl (.inr ⟨_, rfl, rfl⟩) (.inl rfl) (.inl rfl)
  | stop _ | graceful _ => exact same rfl rfl rfl rfl
  | own _ ho =>
    cases ho with
    | pollItem hP hq => exact .item _ _ _ _ _ hP hq rfl rfl rfl rfl
    | pollDrop _ _ hv _ => exact .other rfl (.inl rfl) (.inl rfl) (.inr (.inr (.inr ⟨hv, .inl rfl⟩)))
    | topAdd hv => exact .other rfl (.inl rfl) (.inl rfl) (.inr (.inr (.inr ⟨hv, .inr ⟨_, rfl⟩⟩)))
    | «calc» => rw [stepCalc_eq]; exact same rfl rfl rfl rfl
    | recalc => rw [stepRecalc_eq]; exact same rfl rfl rfl rfl
    | consume _ _ hk =>
      cases hk with
      | waitFb => rw [afterWaitFb_eq]; exact same rfl rfl rfl rfl
      | _ => exact same rfl rfl rfl rfl
    | _ => exact same rfl rfl rfl rfl

theorem poll_next (div : DivFn) {s : St} (ph : Nat) {p : Nat} (rest : List Nat)
    (hch : ∀ inp, alGet s.inputs p = some inp → (alGet s.chans inp.chan).isSome) :
    Own div s (.prio ph (p :: rest)) .skip { s with pc := .prio ph rest } ∨
    ∃ inp ch, Polls s p inp ch ∧
      ((ch.queue = [] ∧ ch.closed = true ∧ Own div s (.prio ph (p :: rest)) .pollClosed
          { s with inputs := alSet s.inputs p { inp with drained := true }, pc := .prio ph rest }) ∨
       Own div s (.prio ph (p :: rest)) .pollEmpty { s with pc := .prio ph rest } ∨
       ∃ x q, ch.queue = x :: q ∧ Own div s (.prio ph (p :: rest)) .pollItem
          { s with chans := alSet s.chans inp.chan { ch with queue := q },
                   taken := s.taken ++ [(inp.chan, x)],
                   delivered := s.delivered ++ [(p, inp.chan, x)],
                   tactic := s.tactic.set p (s.tactic.get p - 1),
                   actual := s.actual.add p 1,
                   inflight := s.inflight.add p 1,
                   processed := s.processed + 1 }) := by
  rcases skips_or_polls hch with hsk | ⟨inp, ch, hP⟩
  · exact .inl (.goto (.skip hsk))
  · refine .inr ⟨inp, ch, hP, ?_⟩
    cases hq : ch.queue with
    | cons x q => exact .inr (.inr ⟨x, q, rfl, .pollItem hP hq⟩)
    | nil =>
      cases hcl : ch.closed with
      | true => exact .inl ⟨rfl, rfl, .pollClosed hP hq hcl⟩
      | false => exact .inr (.inl (.goto (.pollEmpty hP (.inr ⟨hq, by simp [hcl]⟩))))

end Cqos
