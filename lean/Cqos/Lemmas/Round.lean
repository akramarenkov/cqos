import Cqos.Lemmas.SumOver
/-
  The round calculus of `Cqos/Tactic.lean` (`safeDivide`, `calcTacticWith`, `recalcTacticWith`)
  about variables, for an arbitrary (possibly faulty) divider: what a property file needs to know
  of a round without unfolding it.
-/
namespace Cqos
variable {div : List Nat → Nat → Dist → Dist} {ps prios : List Nat} {d vacants picked picked' : Nat}
  {m t t' actual strategic tactic : Dist}

theorem safeDivide_eq (div : List Nat → Nat → Dist → Dist) (ps : List Nat) (d : Nat) (m : Dist) :
    safeDivide div ps d m = (div ps d m,
      if (div ps d m).total = 0 ∨ (div ps d m).total = m.total + d then none else some .dividerBad) := by
  unfold safeDivide
  grind

theorem safeDivide_of_total (h : (div ps d m).total = 0 ∨ (div ps d m).total = m.total + d) :
    safeDivide div ps d m = (div ps d m, none) := by rw [safeDivide_eq, if_pos h]

/-- every division of a round is made on a zeroed map; the hypothesis in the order of `C06.SumRule` -/
theorem safeDivide_zeroed (hm : m.total = 0) (h : (div ps d m).total = d ∨ (div ps d m).total = 0) :
    safeDivide div ps d m = (div ps d m, none) :=
  safeDivide_of_total (by omega)

theorem safeDivide_ok_total (h : safeDivide div ps d m = (t, none)) : t.total = 0 ∨ t.total = m.total + d := by
  rw [safeDivide_eq] at h
  obtain ⟨rfl, h2⟩ := Prod.mk.inj h
  split at h2
  · assumption
  · cases h2

theorem filledFor_iff (c : List Nat) (m : Dist) : filledFor c m = true ↔ ∀ p ∈ c, 1 ≤ m.get p := by
  simp only [filledFor, List.all_eq_true, bne_iff_ne, ne_eq, Nat.one_le_iff_ne_zero]

theorem calcBase_eq (div : List Nat → Nat → Dist → Dist) (prios : List Nat) (actual strategic tactic : Dist)
    (vacants : Nat) :
    calcBase div prios actual strategic tactic vacants =
      let unc := uncrowded prios actual strategic
      let t := div unc vacants tactic.zeroAll
      (t, if t.total = 0 ∨ t.total = vacants then .ok (filledFor unc t) else .error .dividerBad) := by
  by_cases h : (div (uncrowded prios actual strategic) vacants tactic.zeroAll).total = 0 ∨
      (div (uncrowded prios actual strategic) vacants tactic.zeroAll).total = vacants <;>
    simp only [calcBase, safeDivide_eq, Dist.total_zeroAll, Nat.zero_add, h, if_true, if_false]

theorem prepareV2_eq (div : List Nat → Nat → Dist → Dist) (keys : List Nat) (H : Nat) :
    prepareV2 div keys H =
      let S := div (sortDesc keys) H []
      if S.total = 0 ∨ S.total = H then
        if filledFor (sortDesc keys) S then .ok (sortDesc keys, S) else .error .tooSmall
      else .error .dividerBad := by
  by_cases h : (div (sortDesc keys) H []).total = 0 ∨ (div (sortDesc keys) H []).total = H <;>
    simp only [prepareV2, safeDivide_eq, Dist.total_nil, Nat.zero_add, h, if_true, if_false]

theorem addUpLoop_total (h : addUpLoop actual strategic ps t picked = (t', some picked')) :
    t'.total + picked ≤ t.total + picked' := by
  induction ps generalizing t picked with
  | nil => simp [addUpLoop] at h; obtain ⟨rfl, rfl⟩ := h; omega
  | cons p ps ih =>
    simp only [addUpLoop] at h
    split at h
    · cases h
    · have := ih h
      have hs := Dist.total_set t p (strategic.get p - actual.get p)
      omega

theorem calcAddUp_total (h : calcAddUp prios actual strategic tactic vacants = (t, true)) : t.total ≤ vacants := by
  unfold calcAddUp at h
  split at h
  · cases h
  · rename_i heq
    simp only [Prod.mk.injEq, beq_iff_eq] at h
    obtain ⟨rfl, rfl⟩ := h
    have := addUpLoop_total heq
    simp at this
    omega

theorem calcBase_total {b : Bool} (h : (calcBase div prios actual strategic tactic vacants).2 = .ok b) :
    (calcBase div prios actual strategic tactic vacants).1.total ≤ vacants := by
  rw [calcBase_eq] at h ⊢
  simp only at h ⊢
  split at h
  · omega
  · cases h

theorem calcTacticWith_total (h : (calcTacticWith div prios actual strategic tactic vacants).verdict = .ok true) :
    (calcTacticWith div prios actual strategic tactic vacants).tactic.total ≤ vacants := by
  unfold calcTacticWith at h ⊢
  split
  · rename_i h0; simp [h0] at h
  · rename_i h0
    simp only [h0, if_false] at h
    split
    · rename_i heq
      exact calcAddUp_total heq
    · rename_i heq
      simp only [heq] at h
      exact calcBase_total h

theorem recalcTacticWith_total {div : DivFn} {i H : Nat} {b : Bool}
    (h : (recalcTacticWith div i H prios actual tactic).verdict = .ok b) :
    (recalcTacticWith div i H prios actual tactic).tactic.total ≤ tactic.total := by
  unfold recalcTacticWith at h ⊢
  simp only at h ⊢
  split
  · rename_i heq; rw [heq] at h; cases h
  · rename_i heq
    rw [heq] at h
    simp only at h
    split
    · rename_i heq2; rw [heq2] at h; cases h
    · rename_i heq2
      simp only
      rcases safeDivide_ok_total heq2 with h0 | h1
      · omega
      · simp at h1; omega

/-- the add-up loop when nobody holds more than its share: it runs to its end, allots
    `strategic − actual` to every listed priority and touches nothing else -/
theorem addUpLoop_le (actual strategic : Dist) (ps : List Nat) (hle : ∀ p ∈ ps, actual.get p ≤ strategic.get p)
    (t : Dist) (picked : Nat) :
    ∃ t', addUpLoop actual strategic ps t picked =
        (t', some (picked + (sumOver ps strategic - sumOver ps actual))) ∧
      (∀ p ∈ ps, t'.get p = strategic.get p - actual.get p) ∧ (∀ k, k ∉ ps → t'.get k = t.get k) ∧
      (t.NodupKeys → t'.NodupKeys) := by
  induction ps generalizing t picked with
  | nil => exact ⟨t, rfl, (fun _ hp => nomatch hp), fun _ _ => rfl, id⟩
  | cons p ps ih =>
    have hp := hle p List.mem_cons_self
    have hle' : ∀ q ∈ ps, actual.get q ≤ strategic.get q := fun q hq => hle q (List.mem_cons_of_mem _ hq)
    have hs := sumOver_le_of_le hle'
    obtain ⟨t', h1, h2, h3, h4⟩ :=
      ih hle' (t.set p (strategic.get p - actual.get p)) (picked + (strategic.get p - actual.get p))
    refine ⟨t', ?_, ?_, ?_, fun hnd => h4 (Dist.nodupKeys_set _ _ _ hnd)⟩
    · rw [addUpLoop, if_neg (Nat.not_lt.2 hp), h1, sumOver_cons, sumOver_cons]
      congr 2
      omega
    · intro q hq
      by_cases hqs : q ∈ ps
      · exact h2 q hqs
      · obtain rfl : q = p := (List.mem_cons.1 hq).resolve_right hqs
        rw [h3 q hqs, Dist.get_set, if_pos rfl]
    · intro k hk
      rw [h3 k (fun h => hk (List.mem_cons_of_mem _ h)), Dist.get_set, if_neg (fun e : p = k => hk (e ▸ List.mem_cons_self))]

theorem calcTacticWith_addUp (div : List Nat → Nat → Dist → Dist) (prios : List Nat)
    (actual strategic tactic : Dist) (vacants : Nat)
    (hle : ∀ p ∈ prios, actual.get p ≤ strategic.get p) (hv : vacants ≠ 0)
    (hsum : sumOver prios strategic = sumOver prios actual + vacants) :
    ∃ t', calcTacticWith div prios actual strategic tactic vacants = ⟨t', .ok true, 0, []⟩ ∧
      (∀ p ∈ prios, t'.get p = strategic.get p - actual.get p) ∧ (∀ k, k ∉ prios → t'.get k = 0) ∧
      (tactic.NodupKeys → t'.NodupKeys) := by
  obtain ⟨t', h1, h2, h3, h4⟩ := addUpLoop_le actual strategic prios hle tactic.zeroAll 0
  refine ⟨t', ?_, h2, fun k hk => by rw [h3 k hk, Dist.get_zeroAll], fun hnd => h4 ?_⟩
  · have hp : (0 + (sumOver prios strategic - sumOver prios actual) == vacants) = true := by simp; omega
    simp only [calcTacticWith, if_neg hv, calcAddUp, h1, hp]
  · exact Dist.nodupKeys_zeroAll _ hnd

/-- `recalcTactic` when both of its divisions are accepted; `t1`, `t2` name the two maps -/
theorem recalcTacticWith_ok {div : DivFn} {i H : Nat} {t1 t2 : Dist}
    (e1 : t1 = div i (useful1 prios tactic) H tactic.zeroAll) (h1 : t1.total = H ∨ t1.total = 0)
    (e2 : t2 = div (i + 1) (useful2 prios actual t1) tactic.total t1.zeroAll)
    (h2 : t2.total = tactic.total ∨ t2.total = 0) :
    recalcTacticWith div i H prios actual tactic =
      ⟨t2, .ok (filledFor (useful2 prios actual t1) t2), 2,
        [(useful1 prios tactic, H), (useful2 prios actual t1, tactic.total)]⟩ := by
  subst e1 e2
  simp only [recalcTacticWith, safeDivide_zeroed (Dist.total_zeroAll _) h1,
    safeDivide_zeroed (Dist.total_zeroAll _) h2, tacticFilled]

theorem calcTacticWith_no_error {e : Err}
    (hf : ∀ ps d (m : Dist), m.total = 0 → (div ps d m).total = d ∨ (div ps d m).total = 0) :
    (calcTacticWith div prios actual strategic tactic vacants).verdict ≠ .error e := by
  have ok : ∀ ps d (t : Dist), safeDivide div ps d t.zeroAll = (div ps d t.zeroAll, none) := fun ps d t =>
    safeDivide_zeroed t.total_zeroAll (hf ps d _ t.total_zeroAll)
  unfold calcTacticWith
  split
  · simp
  · split
    · simp
    · simp [calcBase, ok]

theorem recalcTacticWith_no_error {div : DivFn} {i H : Nat} {e : Err}
    (hf : ∀ i ps d (m : Dist), m.total = 0 → (div i ps d m).total = d ∨ (div i ps d m).total = 0) :
    (recalcTacticWith div i H prios actual tactic).verdict ≠ .error e := by
  have ok : ∀ i ps d (t : Dist), safeDivide (div i) ps d t.zeroAll = (div i ps d t.zeroAll, none) := fun i ps d t =>
    safeDivide_zeroed t.total_zeroAll (hf i ps d _ t.total_zeroAll)
  simp [recalcTacticWith, ok]

end Cqos
