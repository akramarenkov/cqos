import Cqos.Sched
/-
  `C07.promptRun`, `C07.gracefulRun` and `C16.stopRun` each iterate a resolver — the choice of the
  discipline's next own action — until it has none or the fuel is used up.  `Iterates f g` says
  so of `g` without fixing how `g` is written, so the measure argument (`reaches`) is made once.
-/
namespace Cqos

/-- `g n` applies the partial function `f` until it is undefined, at most `n` times -/
structure Iterates {σ : Type} (f : σ → Option σ) (g : Nat → σ → σ) : Prop where
  zero : ∀ s, g 0 s = s
  succ : ∀ n s, g (n + 1) s = match f s with | some s' => g n s' | none => s

namespace Iterates
variable {σ : Type} {f : σ → Option σ} {g : Nat → σ → σ}

theorem of_none (h : Iterates f g) {s : σ} (hs : f s = none) : ∀ n, g n s = s
  | 0 => h.zero s
  | n + 1 => by rw [h.succ, hs]

theorem of_some (h : Iterates f g) {s s' : σ} (hs : f s = some s') (n : Nat) : g (n + 1) s = g n s' := by
  rw [h.succ, hs]

theorem reaches (h : Iterates f g) {P D : σ → Prop} {μ : σ → Nat}
    (hstep : ∀ s, P s → ¬ D s → ∃ s', f s = some s' ∧ P s' ∧ μ s' < μ s)
    (hstop : ∀ s, D s → f s = none) :
    ∀ (n : Nat) (s : σ), P s → μ s ≤ n → P (g n s) ∧ D (g n s) := by
  intro n
  induction n with
  | zero =>
    intro s hP hn
    rw [h.zero]
    refine ⟨hP, Classical.byContradiction fun hD => ?_⟩
    obtain ⟨s', _, _, hlt⟩ := hstep s hP hD
    omega
  | succ n ih =>
    intro s hP hn
    by_cases hD : D s
    · rw [h.of_none (hstop s hD)]; exact ⟨hP, hD⟩
    · obtain ⟨s', hs, hP', hlt⟩ := hstep s hP hD
      rw [h.of_some hs]
      exact ih s' hP' (by omega)

end Iterates

theorem Iterates.is_run {div : DivFn} {act : St → Option Act} {g : Nat → St → St}
    (h : Iterates (fun s => (act s).bind (step div s)) g) :
    ∀ (n : Nat) (s : St), ∃ acts, run div s acts = some (g n s) ∧ ∀ a ∈ acts, ∃ t, act t = some a := by
  intro n
  induction n with
  | zero => intro s; exact ⟨[], by rw [h.zero]; rfl, fun _ h => nomatch h⟩
  | succ n ih =>
    intro s
    cases hs : (act s).bind (step div s) with
    | none => exact ⟨[], by rw [h.of_none hs]; rfl, fun _ h => nomatch h⟩
    | some s1 =>
      obtain ⟨a, ha, hstep⟩ := Option.bind_eq_some_iff.1 hs
      obtain ⟨acts, hr, ho⟩ := ih s1
      exact ⟨a :: acts, by rw [h.of_some hs, run, hstep]; exact hr, List.forall_mem_cons.2 ⟨⟨s, ha⟩, ho⟩⟩

end Cqos
