import Cqos.Sched
import Cqos.Lemmas.Fold
/-
  The scheduler machine as a relation.  `Step div s a s'` has one constructor per enabled
  transition of `step`, with the guard as hypotheses and the successor state written out
  (`step_iff`).  An invariant proof is a `cases` on it, an enabledness proof applies a
  constructor.  `run_induction` does the same for `run`.  Before the relation: the equations of
  the state functions it mentions, and the two things `prioritize` can do with its head
  priority (`Skips`, `Polls`).
-/
namespace Cqos

theorem decActual_zero {s : St} {p : Nat} (h : s.actual.get p = 0) : decActual s p = { s with pc := .fault } :=
  if_pos h

theorem decActual_pos {s : St} {p : Nat} (h : s.actual.get p ≠ 0) :
    decActual s p = { s with actual := s.actual.set p (s.actual.get p - 1) } :=
  if_neg h

theorem afterWaitFb_stopped (s : St) (h : s.cfg.v1 ∧ s.stopped) :
    afterWaitFb s = { s with tactic := s.tactic.zeroAll, pc := .prio 1 s.prios } :=
  if_pos h

theorem afterWaitFb_running (s : St) (h : ¬ (s.cfg.v1 ∧ s.stopped)) : afterWaitFb s = { s with pc := .calc } :=
  if_neg h

theorem afterWaitFb_pc (s : St) : (afterWaitFb s).pc = .prio 1 s.prios ∨ (afterWaitFb s).pc = .calc := by
  unfold afterWaitFb; split <;> simp

theorem nextRound_v1 {s : St} (hv : s.cfg.v1 = true) : nextRound s = { s with pc := .top, processed := 0 } := by
  unfold nextRound; rw [if_pos hv]

theorem nextRound_v2 {s : St} (hv : s.cfg.v1 = false) : nextRound s = { s with pc := .calc, processed := 0 } := by
  unfold nextRound; rw [hv]; rfl

theorem nextRound_pc (s : St) : (nextRound s).pc = .top ∨ (nextRound s).pc = .calc := by
  unfold nextRound; split <;> simp

/-- `calcTactic` when no more handlers are occupied than there are -/
theorem stepCalc_of_le {div : DivFn} {s : St} (hle : s.actual.total ≤ s.cfg.H) :
    stepCalc div s =
      let r := calcTacticWith (div s.calls) s.prios s.actual s.strategic s.tactic (s.cfg.H - s.actual.total)
      let s1 := { s with tactic := r.tactic, calls := s.calls + r.calls, log := s.log ++ r.divArgs }
      match r.verdict with
      | .ok true => { s1 with pc := .prio 1 s.prios }
      | .ok false => { s1 with pc := .waitFb }
      | .error e => { s1 with pc := .drain (some e) } :=
  if_neg (Nat.not_lt.2 hle)

theorem stepRecalc_def (div : DivFn) (s : St) :
    stepRecalc div s =
      let r := recalcTacticWith div s.calls s.cfg.H s.prios s.actual s.tactic
      let s1 := { s with tactic := r.tactic, calls := s.calls + r.calls, log := s.log ++ r.divArgs }
      match r.verdict with
      | .ok true => { s1 with pc := .prio 2 s.prios }
      | .ok false => { s1 with pc := .prio 2 [] }
      | .error e => { s1 with pc := .drain (some e) } :=
  rfl

/- One record equation per state function whose body branches: after `rw [stepCalc_eq]` every
   field the function leaves alone is read off by `rfl`. -/

theorem afterWaitFb_eq (s : St) :
    afterWaitFb s = { s with tactic := (afterWaitFb s).tactic, pc := (afterWaitFb s).pc } := by
  unfold afterWaitFb; split <;> rfl

theorem stepCalc_eq (div : DivFn) (s : St) :
    stepCalc div s = { s with tactic := (stepCalc div s).tactic, calls := (stepCalc div s).calls,
                              log := (stepCalc div s).log, pc := (stepCalc div s).pc } := by
  fun_cases stepCalc div s <;> rfl

theorem stepRecalc_eq (div : DivFn) (s : St) :
    stepRecalc div s = { s with tactic := (stepRecalc div s).tactic, calls := (stepRecalc div s).calls,
                                log := (stepRecalc div s).log, pc := (stepRecalc div s).pc } := by
  fun_cases stepRecalc div s <;> rfl

theorem stepCalc_pc (div : DivFn) (s : St) :
    (stepCalc div s).pc = .prio 1 s.prios ∨ (stepCalc div s).pc = .waitFb ∨ (∃ e, (stepCalc div s).pc = .drain (some e)) ∨
      (s.cfg.v1 = false ∧ (stepCalc div s).pc = .fault) := by
  fun_cases stepCalc div s
  case case1 => exact .inr (.inr (.inl ⟨_, rfl⟩))
  case case2 hv => exact .inr (.inr (.inr ⟨Bool.eq_false_iff.2 hv, rfl⟩))
  case case3 => exact .inl rfl
  case case4 => exact .inr (.inl rfl)
  case case5 => exact .inr (.inr (.inl ⟨_, rfl⟩))

theorem stepRecalc_pc (div : DivFn) (s : St) :
    (stepRecalc div s).pc = .prio 2 s.prios ∨ (stepRecalc div s).pc = .prio 2 [] ∨ ∃ e, (stepRecalc div s).pc = .drain (some e) := by
  fun_cases stepRecalc div s
  · exact .inl rfl
  · exact .inr (.inl rfl)
  · exact .inr (.inr ⟨_, rfl⟩)

/-- the head-priority context of a poll action -/
structure PollCtx (s : St) where
  phase : Nat
  p : Nat
  rest : List Nat
  hpc : s.pc = .prio phase (p :: rest)

/-- the head priority `p` is passed over: not registered, drained, or without allotment -/
def Skips (s : St) (p : Nat) : Prop :=
  ∀ inp, alGet s.inputs p = some inp → inp.drained = true ∨ s.tactic.get p = 0

/-- the head priority `p` is polled: registered with the undrained input `inp`, whose
    channel is `ch`, and with allotment left -/
structure Polls (s : St) (p : Nat) (inp : Input) (ch : Chan) : Prop where
  input : alGet s.inputs p = some inp
  undrained : inp.drained = false
  share : s.tactic.get p ≠ 0
  chan : alGet s.chans inp.chan = some ch

theorem Polls.of_not_skip {s : St} {p : Nat} {inp : Input} {ch : Chan} (hin : alGet s.inputs p = some inp)
    (hc : ¬ (inp.drained = true ∨ s.tactic.get p = 0)) (hch : alGet s.chans inp.chan = some ch) : Polls s p inp ch :=
  ⟨hin, Bool.eq_false_iff.2 fun e => hc (.inl e), fun e => hc (.inr e), hch⟩

theorem skips_or_polls {s : St} {p : Nat} (hch : ∀ inp, alGet s.inputs p = some inp → (alGet s.chans inp.chan).isSome) :
    Skips s p ∨ ∃ inp ch, Polls s p inp ch := by
  cases hin : alGet s.inputs p with
  | none => exact .inl fun inp hi => by rw [hin] at hi; cases hi
  | some inp =>
    by_cases hc : inp.drained = true ∨ s.tactic.get p = 0
    · exact .inl fun i hi => by rw [hin] at hi; cases hi; exact hc
    · obtain ⟨ch, hch⟩ := Option.isSome_iff_exists.1 (hch inp hin)
      exact .inr ⟨inp, ch, .of_not_skip hin hc hch⟩

/-- the transitions that change nothing but the control state: from `pc` by `a` to `pc'` -/
inductive Goto (s : St) : Pc → Act → Pc → Prop
  | topStop : s.cfg.v1 = true → s.stopped = true → Goto s .top (.top .stop) (.drain none)
  | endDrain {ph} : ph ≠ 1 → s.processed = 0 → (¬ s.cfg.v1 ∨ s.graceful) → allDrained s.inputs = true →
      Goto s (.prio ph []) .endRound (.drain none)
  | endLimited {ph} : ph ≠ 1 → ¬ (s.processed = 0 ∧ (¬ s.cfg.v1 ∨ s.graceful) ∧ allDrained s.inputs) →
      Goto s (.prio ph []) .endRound (.limited s.cfg.fbLimit)
  | skip {ph p rest} : Skips s p → Goto s (.prio ph (p :: rest)) .skip (.prio ph rest)
  | pollEmpty {ph p rest inp ch} : Polls s p inp ch → (¬ ch.buffered ∨ (ch.queue = [] ∧ ¬ ch.closed)) →
      Goto s (.prio ph (p :: rest)) .pollEmpty (.prio ph rest)
  | pollStop {ph p rest inp ch} : Polls s p inp ch → s.cfg.v1 = true → s.stopped = true →
      Goto s (.prio ph (p :: rest)) .stopSeen (.prio ph rest)
  | exit {e} : s.actual.allZero = true → Goto s (.drain e) .exit (.done e)
  | drainStop {e} : s.cfg.v1 = true → s.stopped = true → Goto s (.drain e) .stopSeen (.done e)

/-- where (`pc`, `a`) a feedback value `p` is received, and how the discipline goes on afterwards -/
inductive Consumes (s : St) (p : Nat) : Pc → Act → (St → St) → Prop
  | top : s.cfg.v1 = true → Consumes s p .top (.top (.feedback p)) afterTop
  | waitFb : Consumes s p .waitFb (.consume p) afterWaitFb
  | limited {k} : k ≠ 0 → Consumes s p (.limited k) (.consume p) ({ · with pc := .limited (k - 1) })
  | drain {e} : s.actual.allZero = false → Consumes s p (.drain e) (.consume p) id

/-- the discipline's own transitions, by the control state `pc` they leave -/
inductive Own (div : DivFn) (s : St) : Pc → Act → St → Prop
  | goto {pc a pc'} : Goto s pc a pc' → Own div s pc a { s with pc := pc' }
  | consume {pc p a k} : p ∈ s.pending → s.actual.get p ≠ 0 → Consumes s p pc a k →
      Own div s pc a (k { s with pending := s.pending.erase p, actual := s.actual.set p (s.actual.get p - 1) })
  /-- `actual[p]--` wraps: excluded by the accounting invariant (`Inv`) -/
  | wrap {pc p a k} : p ∈ s.pending → s.actual.get p = 0 → Consumes s p pc a k →
      Own div s pc a { s with pending := s.pending.erase p, pc := .fault }
  | topAdd {p c b} : s.cfg.v1 = true →
      Own div s .top (.top (.add p c b))
        (afterTop (restrategize div
          { s with inputs := alSet s.inputs p ⟨c, false⟩,
                   chans := if (alGet s.chans c).isSome then s.chans else alSet s.chans c ⟨[], false, b⟩ }
          (sortDesc (if (alGet s.inputs p).isSome then s.prios else s.prios ++ [p]))))
  | topRemove {p} : s.cfg.v1 = true →
      Own div s .top (.top (.remove p))
        (afterTop (restrategize div { s with inputs := alErase s.inputs p, tactic := s.tactic.erase p }
          (s.prios.filter (· ≠ p))))
  | topNone : s.cfg.v1 = true → Own div s .top (.top .none) (afterTop s)
  | calc : Own div s .calc .calc (stepCalc div s)
  | waitStop : s.cfg.v1 = true → s.stopped = true →
      Own div s .waitFb .stopSeen { s with tactic := s.tactic.zeroAll, pc := .prio 1 s.prios }
  | recalc : Own div s (.prio 1 []) .recalc (stepRecalc div s)
  | pollItem {ph p rest inp ch x q} : Polls s p inp ch → ch.queue = x :: q →
      Own div s (.prio ph (p :: rest)) .pollItem
        { s with chans := alSet s.chans inp.chan { ch with queue := q },
                 taken := s.taken ++ [(inp.chan, x)],
                 delivered := s.delivered ++ [(p, inp.chan, x)],
                 tactic := s.tactic.set p (s.tactic.get p - 1),
                 actual := s.actual.add p 1,
                 inflight := s.inflight.add p 1,
                 processed := s.processed + 1 }
  | pollDrop {ph p rest inp ch x q} : Polls s p inp ch → ch.queue = x :: q → s.cfg.v1 = true → s.stopped = true →
      Own div s (.prio ph (p :: rest)) .pollDrop
        { s with chans := alSet s.chans inp.chan { ch with queue := q },
                 taken := s.taken ++ [(inp.chan, x)],
                 dropped := s.dropped ++ [(p, inp.chan, x)] }
  | pollClosed {ph p rest inp ch} : Polls s p inp ch → ch.queue = [] → ch.closed = true →
      Own div s (.prio ph (p :: rest)) .pollClosed
        { s with inputs := alSet s.inputs p { inp with drained := true }, pc := .prio ph rest }
  | limitedStop {k} : Own div s (.limited k) .limitedStop (nextRound s)
  | limitedSeen {k} : s.cfg.v1 = true → s.stopped = true → Own div s (.limited k) .stopSeen (nextRound s)

/-- the environment acts in any control state; the discipline steps from the one it is in -/
inductive Step (div : DivFn) (s : St) : Act → St → Prop
  | arrive {c x ch} : alGet s.chans c = some ch → ch.closed = false →
      Step div s (.arrive c x) { s with chans := alSet s.chans c { ch with queue := ch.queue ++ [x] },
                                        arrived := s.arrived ++ [(c, x)] }
  | close {c ch} : alGet s.chans c = some ch →
      Step div s (.close c) { s with chans := alSet s.chans c { ch with closed := true } }
  | release {p} : s.inflight.get p ≠ 0 →
      Step div s (.release p) { s with inflight := s.inflight.set p (s.inflight.get p - 1), pending := s.pending ++ [p] }
  | stop : s.cfg.v1 = true → Step div s .stop { s with stopped := true }
  | graceful : s.cfg.v1 = true → Step div s .graceful { s with graceful := true }
  | own {pc a s'} : s.pc = pc → Own div s pc a s' → Step div s a s'

theorem step_in_prio {div : DivFn} {s : St} {a : Act} {phase p : Nat} {rest : List Nat}
    (hpc : s.pc = .prio phase (p :: rest))
    (ha : ∀ c x, a ≠ .arrive c x) (hb : ∀ c, a ≠ .close c) (hc : ∀ q, a ≠ .release q)
    (hd : a ≠ .stop) (he : a ≠ .graceful) :
    step div s a = stepPoll s phase p rest a := by
  unfold step
  split
  · exact absurd rfl (ha _ _)
  · exact absurd rfl (hb _)
  · exact absurd rfl (hc _)
  · exact absurd rfl hd
  · exact absurd rfl he
  · rw [hpc]

/- `fun_cases` yields the leaves of a function's case tree in source order.  A leaf `none = some s'`
   falls to `cases h`; the numbered cases below are the leaves where the action is enabled. -/

theorem stepPoll_sound {div : DivFn} {s s' : St} {ph p : Nat} {rest : List Nat} {a : Act}
    (h : stepPoll s ph p rest a = some s') : Own div s (.prio ph (p :: rest)) a s' := by
  revert h
  fun_cases stepPoll s ph p rest a <;> intro h <;> cases h
  -- skip, unregistered
  case case1 hin => exact .goto (.skip fun inp hi => by rw [hin] at hi; cases hi)
  -- skip, drained or no allotment
  case case3 inp hin hc => exact .goto (.skip fun inp' hi => by rw [hin] at hi; cases hi; exact hc)
  case case7 hin hc _ hch _ _ hq => exact .pollItem (.of_not_skip hin hc hch) hq
  case case9 hin hc _ hch hv _ _ hq => exact .pollDrop (.of_not_skip hin hc hch) hq hv.1 hv.2
  case case11 hin hc _ hch hq => exact .pollClosed (.of_not_skip hin hc hch) hq.1 hq.2
  case case13 hin hc _ hch he => exact .goto (.pollEmpty (.of_not_skip hin hc hch) he)
  case case15 hin hc _ hch hv => exact .goto (.pollStop (.of_not_skip hin hc hch) hv.1 hv.2)

/-- the model tests `pc = .fault` after `decActual`; whether `actual[p]--` wraps decides between
    `Own.wrap` and `Own.consume` -/
private theorem consume_sound {div : DivFn} {s : St} {pc : Pc} {p : Nat} {a : Act} {k : St → St}
    (hpc : s.pc = pc) (hp : p ∈ s.pending) (hk : Consumes s p pc a k) :
    ((decActual { s with pending := s.pending.erase p } p).pc = .fault →
      Own div s pc a (decActual { s with pending := s.pending.erase p } p)) ∧
    (¬ (decActual { s with pending := s.pending.erase p } p).pc = .fault →
      Own div s pc a (k (decActual { s with pending := s.pending.erase p } p))) := by
  have hnf : s.pc ≠ .fault := by rw [hpc]; cases hk <;> nofun
  by_cases hz : s.actual.get p = 0
  · rw [decActual_zero (s := { s with pending := s.pending.erase p }) hz]
    exact ⟨fun _ => .wrap hp hz hk, fun h => absurd rfl h⟩
  · rw [decActual_pos (s := { s with pending := s.pending.erase p }) hz]
    exact ⟨fun h => absurd h hnf, fun _ => .consume hp hz hk⟩

private theorem stepTop_sound {div : DivFn} {s s' : St} {c : TopChoice} (hpc : s.pc = .top) (hv : s.cfg.v1 = true)
    (h : stepTop div s c = some s') : Own div s .top (.top c) s' := by
  revert s'
  fun_cases stepTop div s c <;> intro s' h <;> cases h
  case case1 hst => exact .goto (.topStop hv hst)
  case case3 => exact .topAdd hv
  case case4 => exact .topRemove hv
  -- feedback, wraps
  case case5 hp _ hf => exact (consume_sound hpc hp (.top hv)).1 hf
  -- feedback
  case case6 hp _ hf => exact (consume_sound hpc hp (.top hv)).2 hf
  case case8 => exact .topNone hv

theorem step_sound {div : DivFn} {s s' : St} {a : Act} (h : step div s a = some s') : Step div s a s' := by
  revert s'
  fun_cases step div s a <;> intro s' h <;> try cases h
  case case2 hch hcl => exact .arrive hch (Bool.eq_false_iff.2 hcl)
  case case4 hch => exact .close hch
  case case7 hne => exact .release hne
  case case8 hv => exact .stop hv
  case case10 hv => exact .graceful hv
  -- top: the loop-top select
  case case12 => exact .own ‹_› (stepTop_sound ‹_› ‹_› h)
  case case15 => exact .own ‹_› .calc
  -- waitFb: consume, wraps
  case case17 => exact .own ‹_› ((consume_sound ‹_› ‹_› .waitFb).1 ‹_›)
  -- waitFb: consume
  case case18 => exact .own ‹_› ((consume_sound ‹_› ‹_› .waitFb).2 ‹_›)
  -- waitFb: stopSeen
  case case20 =>
    have hv : s.cfg.v1 = true ∧ s.stopped = true := ‹_›
    exact .own ‹_› (afterWaitFb_stopped s hv ▸ Own.waitStop hv.1 hv.2)
  case case23 => exact .own ‹_› .recalc
  -- prio _ []: endRound, to drain
  case case26 =>
    have hc : s.processed = 0 ∧ (¬ s.cfg.v1 ∨ s.graceful) ∧ allDrained s.inputs = true := ‹_›
    exact .own ‹_› (.goto (.endDrain ‹_› hc.1 hc.2.1 hc.2.2))
  -- prio _ []: endRound, to limited
  case case27 => exact .own ‹_› (.goto (.endLimited ‹¬ _ = 1› ‹¬ (_ ∧ _)›))
  -- prio _ (p :: _): poll
  case case29 => exact .own ‹_› (stepPoll_sound h)
  -- limited: consume, wraps
  case case31 =>
    have hc : ¬ (_ = 0 ∨ ¬ _ ∈ s.pending) := ‹_›
    exact .own ‹_› ((consume_sound ‹_› (Decidable.not_not.1 fun e => hc (.inr e)) (.limited fun e => hc (.inl e))).1 ‹_›)
  -- limited: consume
  case case32 =>
    have hc : ¬ (_ = 0 ∨ ¬ _ ∈ s.pending) := ‹_›
    exact .own ‹_› ((consume_sound ‹_› (Decidable.not_not.1 fun e => hc (.inr e)) (.limited fun e => hc (.inl e))).2 ‹_›)
  case case33 => exact .own ‹_› .limitedStop
  -- limited: stopSeen
  case case34 =>
    have hv : s.cfg.v1 = true ∧ s.stopped = true := ‹_›
    exact .own ‹_› (.limitedSeen hv.1 hv.2)
  -- drain: consume
  case case38 =>
    have hc : ¬ (s.actual.allZero = true ∨ ¬ _ ∈ s.pending) := ‹_›
    have hk := consume_sound (div := div) (k := id) ‹_› (Decidable.not_not.1 fun e => hc (.inr e))
      (.drain (Bool.eq_false_iff.2 fun e => hc (.inl e)))
    exact .own ‹_› (Decidable.byCases hk.1 hk.2)
  case case39 => exact .own ‹_› (.goto (.exit ‹_›))
  -- drain: stopSeen
  case case41 =>
    have hv : s.cfg.v1 = true ∧ s.stopped = true := ‹_›
    exact .own ‹_› (.goto (.drainStop hv.1 hv.2))

theorem Step.step_eq {div : DivFn} {s s' : St} {a : Act} (h : Step div s a s') : step div s a = some s' := by
  unfold step
  cases h with
  | arrive hch hcl => simp [hch, hcl]
  | close hch => simp [hch]
  | release hne => simp [hne]
  | stop hv | graceful hv => simp [hv]
  | own hpc ho =>
    cases ho with
    | goto hg =>
      cases hg with
      | topStop hv hst => simp [stepTop, hpc, hv, hst]
      | endDrain h1 h2 h3 h4 => simp only [hpc, if_neg h1]; rw [if_pos ⟨h2, h3, h4⟩]
      | endLimited h1 hc => simp only [hpc, if_neg h1]; rw [if_neg hc]
      | skip hsk =>
        simp only [hpc, stepPoll]
        split
        · simp
        · rename_i inp hin; rw [if_pos (hsk inp hin)]; simp
      | pollEmpty hP he =>
        simp only [hpc, stepPoll, hP.input, hP.undrained, hP.share, hP.chan]
        simp only [Bool.false_eq_true, or_self, if_false]; rw [if_pos he]
      | pollStop hP hv hst => simp [hpc, stepPoll, hP.input, hP.undrained, hP.share, hP.chan, hv, hst]
      | exit hz => simp [hpc, hz]
      | drainStop hv hst => simp [hpc, hv, hst]
    | consume hp hz hk | wrap hp hz hk =>
      cases hk with
      | top hv => simp [stepTop, hpc, hv, hp, decActual, hz]
      | waitFb => simp [hpc, hp, decActual, hz]
      | limited hk => simp [hpc, hk, hp, decActual, hz]
      | drain hne => simp [hpc, hne, hp, decActual, hz]
    | topAdd hv | topRemove hv | topNone hv => simp [stepTop, hpc, hv]
    | «calc» | recalc | limitedStop => simp [hpc]
    | waitStop hv hst => simp [hpc, hv, hst, afterWaitFb]
    | pollItem hP hq => simp [hpc, stepPoll, hP.input, hP.undrained, hP.share, hP.chan, hq]
    | pollDrop hP hq hv hst => simp [hpc, stepPoll, hP.input, hP.undrained, hP.share, hP.chan, hq, hv, hst]
    | pollClosed hP hq hcl => simp [hpc, stepPoll, hP.input, hP.undrained, hP.share, hP.chan, hq, hcl]
    | limitedSeen hv hst => simp [hpc, hv, hst]

/-- the successor of an enabled `top (add ..)` / `top (remove ..)` / `top none` is read off this by `cases` -/
theorem stepTop_of_step {div : DivFn} {s s' : St} {c : TopChoice} (h : step div s (.top c) = some s') :
    stepTop div s c = some s' := by
  cases step_sound h with | own hpc ho => ?_
  have hv : s.pc = .top ∧ s.cfg.v1 = true := by
    cases ho with
    | goto hg => cases hg with | topStop hv _ => exact ⟨hpc, hv⟩
    | consume _ _ hk | wrap _ _ hk => cases hk with | top hv => exact ⟨hpc, hv⟩
    | topAdd hv | topRemove hv | topNone hv => exact ⟨hpc, hv⟩
  unfold step at h
  simp only [hv.1, hv.2, if_true] at h
  exact h

theorem step_iff {div : DivFn} {s s' : St} {a : Act} : step div s a = some s' ↔ Step div s a s' :=
  ⟨step_sound, Step.step_eq⟩

theorem Step.cfg_eq {div : DivFn} {s s' : St} {a : Act} (h : Step div s a s') : s'.cfg = s.cfg := by
  cases h with
  | own _ ho =>
    cases ho with
    | «calc» => rw [stepCalc_eq]
    | recalc => rw [stepRecalc_eq]
    | consume _ _ hk =>
      cases hk with
      | waitFb => rw [afterWaitFb_eq]
      | _ => rfl
    | _ => rfl
  | _ => rfl

theorem Step.done_quiet {div : DivFn} {s s' : St} {a : Act} {e : Option Err} (hpc : s.pc = .done e)
    (h : Step div s a s') : s'.pc = .done e ∧ s'.delivered = s.delivered := by
  cases h with
  | own h ho =>
    rw [hpc] at h; subst h
    cases ho with
    | goto hg => nomatch hg
    | consume _ _ hk | wrap _ _ hk => nomatch hk
  | _ => exact ⟨hpc, rfl⟩

theorem run_eq_foldlM (div : DivFn) (s : St) (acts : List Act) : run div s acts = acts.foldlM (step div) s :=
  eq_foldlM (step div) (run div) (fun _ => rfl) (fun s a _ => by rw [run]; cases step div s a <;> rfl) s acts

theorem run_cons_iff {div : DivFn} {s s' : St} {a : Act} {as : List Act} :
    run div s (a :: as) = some s' ↔ ∃ s1, Step div s a s1 ∧ run div s1 as = some s' := by
  simp only [run_eq_foldlM, foldlM_cons_some, step_iff]

theorem run_append_iff {div : DivFn} {s s' : St} {l1 l2 : List Act} :
    run div s (l1 ++ l2) = some s' ↔ ∃ s1, run div s l1 = some s1 ∧ run div s1 l2 = some s' := by
  simp only [run_eq_foldlM, foldlM_append_some]

theorem run_induction {div : DivFn} {I : St → Prop} (hstep : ∀ {s a s'}, I s → Step div s a s' → I s')
    {acts : List Act} {s s' : St} (h : I s) (hr : run div s acts = some s') : I s' :=
  foldlM_induction (fun _ _ _ hi hs => hstep hi (step_sound hs)) h (run_eq_foldlM div s acts ▸ hr)

theorem run_cfg {div : DivFn} {acts : List Act} {s s' : St} (hr : run div s acts = some s') : s'.cfg = s.cfg :=
  run_induction (I := fun t => t.cfg = s.cfg) (fun hi hs => hs.cfg_eq.trans hi) rfl hr

end Cqos
