import Cqos.Lemmas.DistKeys
/-
  What a divider does to the map: `AddsAlong ps is m m'` — `m'` is `m` with the increments `is`
  added along the priorities `ps`, as far as `get`, `total` and key uniqueness can tell.  Fair's
  and Rate's loops are instances; conservation, frame, per-priority increment and additivity are
  read off `AddsAlong`, which leaves arithmetic about the list of increments.
-/
namespace Cqos

/-- what the increments `is`, handed out along `ps`, add up to at key `k`
    (a priority listed twice collects both) -/
def incAt : List Nat → List Nat → Nat → Nat
  | p :: ps, i :: is, k => (if p = k then i else 0) + incAt ps is k
  | _, _, _ => 0

theorem incAt_of_not_mem {ps : List Nat} (is : List Nat) {k : Nat} (hk : k ∉ ps) : incAt ps is k = 0 := by
  fun_induction incAt ps is k <;> grind

theorem incAt_getElem {ps is : List Nat} (hnd : ps.Nodup) (h : ps.length = is.length)
    (j : Nat) (hj : j < ps.length) : incAt ps is ps[j] = is[j]'(h ▸ hj) := by
  induction ps generalizing is j with
  | nil => simp at hj
  | cons p ps ih =>
    obtain _ | ⟨i, is⟩ := is
    · simp at h
    have ⟨hp, hnd⟩ := List.nodup_cons.1 hnd
    cases j with
    | zero => simp [incAt, incAt_of_not_mem is hp]
    | succ j =>
      have hj' : j < ps.length := by simpa using hj
      have : p ≠ ps[j] := fun e => hp (e ▸ List.getElem_mem hj')
      simp [incAt, this, ih hnd (by simpa using h) j hj']

theorem incAt_zeros (ps : List Nat) (k : Nat) : incAt ps (ps.map fun _ => 0) k = 0 := by
  induction ps with
  | nil => rfl
  | cons p ps ih => simp only [List.map_cons, incAt, ih]; split <;> rfl

theorem sum_zeros (ps : List Nat) : (ps.map fun _ => 0).sum = 0 := by
  induction ps <;> simp_all

/-- the leftover of `Rate` goes to the first increment -/
def addHead (r : Nat) : List Nat → List Nat
  | [] => []
  | i :: l => (i + r) :: l

@[simp] theorem addHead_zero (l : List Nat) : addHead 0 l = l := by cases l <;> rfl

@[simp] theorem length_addHead (r : Nat) (l : List Nat) : (addHead r l).length = l.length := by
  cases l <;> rfl

theorem sum_addHead (r : Nat) (l : List Nat) : (addHead r l).sum = l.sum + if l = [] then 0 else r := by
  cases l <;> simp [addHead]; omega

theorem pairwise_addHead (r : Nat) {l : List Nat} (h : l.Pairwise (fun a b => b ≤ a)) :
    (addHead r l).Pairwise (fun a b => b ≤ a) := by
  cases l with
  | nil => exact h
  | cons i l =>
    have h := List.pairwise_cons.1 h
    exact List.pairwise_cons.2 ⟨fun x hx => Nat.le_trans (h.1 x hx) (Nat.le_add_right _ _), h.2⟩

structure AddsAlong (ps is : List Nat) (m m' : Dist) : Prop where
  length : is.length = ps.length
  get : ∀ k, m'.get k = m.get k + incAt ps is k
  total : m'.total = m.total + is.sum
  nodup : m.NodupKeys → m'.NodupKeys

namespace AddsAlong
variable {ps is : List Nat} {m m' : Dist}

theorem nil (m : Dist) : AddsAlong [] [] m m := ⟨rfl, fun _ => rfl, rfl, id⟩

theorem cons {p i : Nat} (h : AddsAlong ps is (m.add p i) m') : AddsAlong (p :: ps) (i :: is) m m' :=
  ⟨congrArg (· + 1) h.length,
   fun k => by rw [h.get, Dist.get_add, incAt, Nat.add_assoc],
   by rw [h.total, Dist.total_add, List.sum_cons, Nat.add_assoc],
   fun hn => h.nodup (Dist.nodupKeys_add _ _ _ hn)⟩

/-- nothing handed out (Rate's truncating `return`: the later keys are not even created) -/
theorem zeros (ps : List Nat) (m : Dist) : AddsAlong ps (ps.map fun _ => 0) m m :=
  ⟨List.length_map _, fun k => by rw [incAt_zeros]; rfl, by rw [sum_zeros]; rfl, id⟩

theorem add_head {p : Nat} (r : Nat) (h : AddsAlong (p :: ps) is m m') :
    AddsAlong (p :: ps) (addHead r is) m (m'.add p r) := by
  obtain _ | ⟨i, is⟩ := is
  · exact nomatch h.length
  · refine ⟨h.length, fun k => ?_, ?_, fun hn => Dist.nodupKeys_add _ _ _ (h.nodup hn)⟩
    · rw [Dist.get_add, h.get]
      simp only [addHead, incAt]
      split <;> omega
    · rw [Dist.total_add, h.total]
      simp only [addHead, List.sum_cons]
      omega

theorem frame (h : AddsAlong ps is m m') {k : Nat} (hk : k ∉ ps) : m'.get k = m.get k := by
  rw [h.get, incAt_of_not_mem is hk]; rfl

theorem getElem (h : AddsAlong ps is m m') (hnd : ps.Nodup) (j : Nat) (hj : j < ps.length) :
    m'.get ps[j] = m.get ps[j] + is[j]'(h.length ▸ hj) := by
  rw [h.get, incAt_getElem hnd h.length.symm]

theorem additive {m0 : Dist} (h : AddsAlong ps is m m') (h0 : AddsAlong ps is [] m0) (k : Nat) :
    m'.get k = m.get k + m0.get k := by
  rw [h.get, h0.get, Dist.get_nil, Nat.zero_add]

end AddsAlong

/-- the divider's contract on totals: the dividend is added, unless there is nobody to give it to -/
def Conserves (f : List Nat → Nat → Dist → Dist) : Prop :=
  ∀ ps d m, (f ps d m).total = m.total + if ps = [] then 0 else d

/-- the increments of `Fair`: `base` each, one more for the first `rem` -/
def fairIncs : Nat → Nat → Nat → List Nat
  | 0, _, _ => []
  | n + 1, base, rem => if rem = 0 then base :: fairIncs n base 0 else (base + 1) :: fairIncs n base (rem - 1)

theorem fairLoop_adds (ps : List Nat) (base rem : Nat) (m : Dist) :
    AddsAlong ps (fairIncs ps.length base rem) m (fairLoop ps base rem m) := by
  induction ps generalizing rem m with
  | nil => exact .nil m
  | cons p ps ih =>
    simp only [fairLoop, List.length_cons, fairIncs]
    split <;> exact (ih ..).cons

theorem fairIncs_sum (n base rem : Nat) (h : rem ≤ n) : (fairIncs n base rem).sum = base * n + rem := by
  induction n generalizing rem with
  | zero => rw [Nat.le_zero.1 h]; rfl
  | succ n ih =>
    cases rem with
    | zero =>
      rw [fairIncs, if_pos rfl, List.sum_cons, ih 0 (Nat.zero_le _), Nat.mul_succ]
      omega
    | succ r =>
      rw [fairIncs, if_neg (Nat.succ_ne_zero r), List.sum_cons, Nat.add_sub_cancel,
        ih r (Nat.le_of_succ_le_succ h), Nat.mul_succ]
      omega

theorem fairIncs_getElem (n base rem : Nat) (j : Nat) (hj : j < (fairIncs n base rem).length) :
    (fairIncs n base rem)[j] = base + (if j < rem then 1 else 0) := by
  induction n generalizing rem j with
  | zero => exact absurd hj (Nat.not_lt_zero _)
  | succ n ih =>
    simp only [fairIncs] at hj ⊢
    split
    · next h0 =>
      subst h0
      cases j with
      | zero => rfl
      | succ j => rw [List.getElem_cons_succ, ih]; rfl
    · next h0 =>
      cases j with
      | zero => rw [List.getElem_cons_zero, if_pos (Nat.pos_of_ne_zero h0)]
      | succ j => rw [List.getElem_cons_succ, ih]; simp only [Nat.lt_sub_iff_add_lt]

theorem fair_adds (ps : List Nat) (d : Nat) (m : Dist) :
    AddsAlong ps (fairIncs ps.length (d / ps.length) (d % ps.length)) m (fair ps d m) := by
  have e : d - d / ps.length * ps.length = d % ps.length :=
    Nat.sub_eq_of_eq_add (Nat.mod_add_div' d ps.length).symm
  unfold fair; split
  · subst ps; exact .nil m
  · rw [e]; exact fairLoop_adds ..

theorem conserves_fair : Conserves fair := fun ps d m => by
  rw [(fair_adds ps d m).total]
  split
  · next h => subst h; rfl
  · next h =>
    rw [fairIncs_sum _ _ _ (Nat.le_of_lt (Nat.mod_lt _ (List.length_pos_iff.mpr h))), Nat.div_add_mod']

/-- the increments the loop of `Rate` hands out, and the leftover (`none` = truncated) -/
def rateIncs (part : Nat → Nat) : List Nat → Nat → List Nat × Option Nat
  | [], rem => ([], some rem)
  | p :: ps, rem =>
    if rem < part p then (rem :: ps.map (fun _ => 0), none)
    else ((part p) :: (rateIncs part ps (rem - part p)).1, (rateIncs part ps (rem - part p)).2)

theorem rateIncs_length (part : Nat → Nat) (ps : List Nat) (rem : Nat) :
    (rateIncs part ps rem).1.length = ps.length := by
  induction ps generalizing rem with
  | nil => rfl
  | cons p ps ih => simp only [rateIncs]; split <;> simp [ih]

theorem rateLoop_adds (part : Nat → Nat) (ps : List Nat) (rem : Nat) (m : Dist) :
    AddsAlong ps (rateIncs part ps rem).1 m (rateLoop part ps rem m).1 ∧
    (rateLoop part ps rem m).2 = (rateIncs part ps rem).2 := by
  induction ps generalizing rem m with
  | nil => exact ⟨.nil m, rfl⟩
  | cons p ps ih =>
    simp only [rateLoop, rateIncs]
    split
    · exact ⟨(AddsAlong.zeros ps _).cons, rfl⟩
    · exact ⟨(ih ..).1.cons, (ih ..).2⟩

theorem rateIncs_sum (part : Nat → Nat) (ps : List Nat) (rem : Nat) :
    (rateIncs part ps rem).1.sum + (rateIncs part ps rem).2.getD 0 = rem := by
  induction ps generalizing rem with
  | nil => simp [rateIncs]
  | cons p ps ih =>
    simp only [rateIncs]
    split
    · simp [sum_zeros]
    · have := ih (rem - part p); simp only [List.sum_cons]; omega

end Cqos
