import Cqos.Sched
/-
  Lemmas about the association-list helpers `alGet` / `alSet` / `alErase` of the scheduler
  machine (inputs by priority, channels by identity).
-/
namespace Cqos

def alKeys {α} (l : List (Nat × α)) : List Nat := l.map (·.1)

theorem alGet_alSet {α} (l : List (Nat × α)) (k k' : Nat) (v : α) :
    alGet (alSet l k v) k' = if k = k' then some v else alGet l k' := by
  fun_induction alSet l k v <;> grind [alGet]

theorem alGet_isSome_iff {α} (l : List (Nat × α)) (k : Nat) : (alGet l k).isSome ↔ k ∈ alKeys l := by
  fun_induction alGet l k with
  | case1 => simp [alKeys]
  | case2 => simp [alKeys]
  | case3 k' v r k h ih => simp only [alKeys, List.map_cons, List.mem_cons, Ne.symm h, false_or]; exact ih

theorem alKeys_alSet {α} (l : List (Nat × α)) (k : Nat) (v : α) (x : Nat) :
    x ∈ alKeys (alSet l k v) ↔ x ∈ alKeys l ∨ x = k := by
  rw [← alGet_isSome_iff, alGet_alSet, ← alGet_isSome_iff]
  by_cases h : k = x
  · subst h; simp
  · have : ¬ x = k := fun e => h e.symm
    simp [h, this]

theorem alGet_alSet_isSome {α} (l : List (Nat × α)) (k k' : Nat) (v : α) :
    (alGet (alSet l k v) k').isSome ↔ (alGet l k').isSome ∨ k' = k := by
  rw [alGet_isSome_iff, alKeys_alSet, ← alGet_isSome_iff]

theorem nodup_alSet {α} (l : List (Nat × α)) (k : Nat) (v : α) (h : (alKeys l).Nodup) : (alKeys (alSet l k v)).Nodup := by
  fun_induction alSet l k v with
  | case1 => exact List.nodup_cons.2 ⟨List.not_mem_nil, List.nodup_nil⟩
  | case2 => exact h
  | case3 k' v' r k v hne ih =>
    have h := List.nodup_cons.1 h
    exact List.nodup_cons.2 ⟨fun hin => ((alKeys_alSet r k v k').1 hin).elim h.1 hne, ih h.2⟩

theorem alKeys_alErase_sub {α} (l : List (Nat × α)) (k : Nat) : (alKeys (alErase l k)).Sublist (alKeys l) := by
  induction l with
  | nil => simp [alErase, alKeys]
  | cons e r ih =>
    obtain ⟨k0, v0⟩ := e
    simp only [alErase]
    split
    · simp only [alKeys, List.map_cons]; exact List.sublist_cons_self _ _
    · simp only [alKeys, List.map_cons]; exact List.Sublist.cons_cons _ ih

theorem nodup_alErase {α} (l : List (Nat × α)) (k : Nat) (h : (alKeys l).Nodup) : (alKeys (alErase l k)).Nodup :=
  List.Sublist.nodup (alKeys_alErase_sub l k) h

theorem alGet_alErase {α} (l : List (Nat × α)) (k k' : Nat) (h : (alKeys l).Nodup) :
    alGet (alErase l k) k' = if k = k' then none else alGet l k' := by
  induction l with
  | nil => simp [alErase, alGet]
  | cons e r ih =>
    obtain ⟨k0, v0⟩ := e
    simp only [alKeys, List.map_cons, List.nodup_cons] at h
    simp only [alErase]
    by_cases h0 : k0 = k
    · subst h0
      simp only [if_true]
      by_cases h2 : k0 = k'
      · subst h2
        simp only [if_true]
        cases hg : alGet r k0 with
        | none => rfl
        | some v =>
          have : (alGet r k0).isSome := by simp [hg]
          exact absurd ((alGet_isSome_iff r k0).1 this) h.1
      · simp [alGet, h2]
    · simp only [h0, if_false, alGet]
      by_cases h2 : k0 = k'
      · subst h2
        have : ¬ k = k0 := fun e => h0 e.symm
        simp [this]
      · simp only [h2, if_false]
        exact ih h.2

theorem alGet_of_alErase {α} {l : List (Nat × α)} {k k' : Nat} {v : α} (h : (alKeys l).Nodup)
    (hg : alGet (alErase l k) k' = some v) : k ≠ k' ∧ alGet l k' = some v := by
  rw [alGet_alErase _ _ _ h] at hg
  split at hg
  · cases hg
  · exact ⟨‹_›, hg⟩

theorem alGet_mem_all {α} (l : List (Nat × α)) (f : Nat × α → Bool) (h : l.all f = true) (k : Nat) (v : α)
    (hk : alGet l k = some v) : f (k, v) = true := by
  induction l with
  | nil => simp [alGet] at hk
  | cons e r ih =>
    obtain ⟨k0, v0⟩ := e
    simp only [List.all_cons, Bool.and_eq_true] at h
    simp only [alGet] at hk
    split at hk
    · rename_i he; cases hk; subst he; exact h.1
    · exact ih h.2 hk

theorem all_of_alGet {α} (l : List (Nat × α)) (f : Nat × α → Bool) (hnd : (alKeys l).Nodup)
    (h : ∀ k v, alGet l k = some v → f (k, v) = true) : l.all f = true := by
  induction l with
  | nil => rfl
  | cons e r ih =>
    obtain ⟨k0, v0⟩ := e
    simp only [alKeys, List.map_cons, List.nodup_cons] at hnd
    simp only [List.all_cons, Bool.and_eq_true]
    refine ⟨h k0 v0 (by simp [alGet]), ih hnd.2 fun k v hk => h k v ?_⟩
    have hmem : k ∈ alKeys r := (alGet_isSome_iff r k).1 (by rw [hk]; rfl)
    have hne : k0 ≠ k := fun e => hnd.1 (by rw [e]; exact hmem)
    simp [alGet, hne, hk]

end Cqos
