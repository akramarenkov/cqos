import Cqos.Lemmas.Round
import Cqos.Lemmas.Step
/-
  What a successful v2 `New` returns — the state in full, with the two facts `prepare` has checked
  of the strategic distribution (`initV2_ok`; `initV2_v1` … `initV2_share` are read off it;
  `alGet_mkInputs`: the inputs it registers) — and what no transition of a v2 discipline changes
  (`Step.v2_static`, `C07.v2_static_run`).
-/
namespace Cqos

theorem initV2_ok {div : DivFn} {keys : List (Nat × Bool)} {H : Nat} {s0 : St} (h0 : initV2 div keys H = .ok s0) :
    let P := sortDesc (keys.map (·.1))
    let S := div 0 P H []
    filledFor P S = true ∧ (S.total = 0 ∨ S.total = H) ∧
    s0 = { emptySt ⟨false, H, divideWithMin H 10 keys.length⟩ with
            prios := P, inputs := (mkInputs keys).1, chans := (mkInputs keys).2,
            strategic := S, calls := 1, log := [(P, H)], pc := .calc } := by
  intro P S
  by_cases hv : (div 0 (sortDesc (keys.map (·.1))) H []).total = 0 ∨ (div 0 (sortDesc (keys.map (·.1))) H []).total = H
  · by_cases hf : filledFor (sortDesc (keys.map (·.1))) (div 0 (sortDesc (keys.map (·.1))) H []) = true
    · simp only [initV2, prepareV2_eq, if_pos hv, if_pos hf] at h0
      cases h0
      exact ⟨hf, hv, rfl⟩
    · simp only [initV2, prepareV2_eq, if_pos hv, if_neg hf] at h0
      cases h0
  · simp only [initV2, prepareV2_eq, if_neg hv] at h0
    cases h0

section
variable {div : DivFn} {keys : List (Nat × Bool)} {H : Nat} {s0 : St} (h0 : initV2 div keys H = .ok s0)
include h0

theorem initV2_v1 : s0.cfg.v1 = false := (initV2_ok h0).2.2 ▸ rfl

theorem initV2_H : s0.cfg.H = H := (initV2_ok h0).2.2 ▸ rfl

theorem initV2_pc : s0.pc = .calc := (initV2_ok h0).2.2 ▸ rfl

/-- a successful v2 `New` gives every priority a share of at least one (repair of D2) -/
theorem initV2_share : ∀ p ∈ s0.prios, 1 ≤ s0.strategic.get p := by
  obtain ⟨hf, _, rfl⟩ := initV2_ok h0
  exact (filledFor_iff _ _).1 hf

end

theorem alGet_mkInputs (keys : List (Nat × Bool)) (p : Nat) (inp : Input) (h : alGet (mkInputs keys).1 p = some inp) :
    inp = ⟨p, false⟩ ∧ (alGet (mkInputs keys).2 p).isSome := by
  induction keys with
  | nil => simp [mkInputs, alGet] at h
  | cons k ks ih =>
    simp only [mkInputs, List.map_cons, alGet] at h ⊢
    split at h
    · rename_i hk; cases h; subst hk; simp
    · rename_i hk
      obtain ⟨h1, h2⟩ := ih h
      exact ⟨h1, by simp only [hk, if_false]; exact h2⟩

theorem Step.v2_static {div : DivFn} {s s' : St} {a : Act} (h : Step div s a s') (hv : s.cfg.v1 = false) :
    s'.prios = s.prios ∧ s'.strategic = s.strategic ∧ (s.pc ≠ .top → s'.pc ≠ .top) := by
  have v1 : s.cfg.v1 = true → False := fun h => by rw [hv] at h; cases h
  cases h with
  | stop h | graceful h => exact (v1 h).elim
  | own hpc ho =>
    cases ho with
    | goto hg => exact ⟨rfl, rfl, fun _ => by cases hg <;> nofun⟩
    | «calc» =>
      refine ⟨by rw [stepCalc_eq], by rw [stepCalc_eq], fun _ => ?_⟩
      rcases stepCalc_pc div s with e | e | ⟨_, e⟩ | ⟨_, e⟩ <;> rw [e] <;> nofun
    | recalc =>
      refine ⟨by rw [stepRecalc_eq], by rw [stepRecalc_eq], fun _ => ?_⟩
      rcases stepRecalc_pc div s with e | e | ⟨_, e⟩ <;> rw [e] <;> nofun
    | consume _ _ hk =>
      cases hk with
      | top h => exact (v1 h).elim
      | waitFb => unfold afterWaitFb; rw [if_neg fun h => v1 h.1]; exact ⟨rfl, rfl, fun _ => nofun⟩
      | limited => exact ⟨rfl, rfl, fun _ => nofun⟩
      | drain => exact ⟨rfl, rfl, id⟩
    | topAdd h | topRemove h | topNone h | waitStop h | pollDrop _ _ h | limitedSeen h => exact (v1 h).elim
    | pollItem => exact ⟨rfl, rfl, fun _ => by rw [hpc]; nofun⟩
    | wrap _ _ _ | pollClosed => exact ⟨rfl, rfl, fun _ => nofun⟩
    | limitedStop => exact ⟨rfl, rfl, fun _ => by rw [nextRound_v2 hv]; nofun⟩
  | _ => exact ⟨rfl, rfl, id⟩

theorem C07.v2_static_run (div : DivFn) (acts : List Act) (s s' : St) (hv : s.cfg.v1 = false) (hr : run div s acts = some s') :
    s'.prios = s.prios ∧ s'.strategic = s.strategic ∧ s'.cfg = s.cfg ∧ (s.pc ≠ .top → s'.pc ≠ .top) :=
  run_induction (I := fun t => t.prios = s.prios ∧ t.strategic = s.strategic ∧ t.cfg = s.cfg ∧ (s.pc ≠ .top → t.pc ≠ .top))
    (fun ⟨a1, a2, a3, a4⟩ ht => by
      obtain ⟨b1, b2, b4⟩ := ht.v2_static (by rw [a3]; exact hv)
      exact ⟨b1.trans a1, b2.trans a2, ht.cfg_eq.trans a3, fun h => b4 (a4 h)⟩)
    ⟨rfl, rfl, rfl, id⟩ hr

end Cqos
