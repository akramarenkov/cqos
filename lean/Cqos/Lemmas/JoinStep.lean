import Cqos.Join
import Cqos.Lemmas.Fold
/-
  The join/unite machine from outside: the effect equations of its building blocks and one
  case principle for `jstep`.  `JStep` lists every enabled step with its guard and its
  successor, the successor written with `jpass`, `jappendPath ∘ jlog`, `jcont ∘ jlog` and
  `jrelease`: an invariant needs one lemma per block and then one line per case.
-/
namespace Cqos

theorem jpass_empty_eq (s : JSt) (t : Nat) (tk : Bool) (nx : Option (Nat × List Nat)) (hb : s.buf = []) :
    jpass s t tk nx = { s with passAt := t } := by simp [jpass, hb]

theorem jpass_copy_eq (s : JSt) (t : Nat) (tk : Bool) (nx : Option (Nat × List Nat)) (hb : s.buf ≠ [])
    (hc : s.cfg.noCopy = false) :
    jpass s t tk nx =
      { s with out := s.out ++ [s.buf], events := s.events ++ [JEvent.emit s.nextId s.buf] ++ [JEvent.write],
               emitAt := s.emitAt ++ [t], byTick := s.byTick ++ [tk], nextId := s.nextId + 1, buf := [],
               passAt := t } := by
  simp [jpass, hb, hc, jsend, jafterPass]

theorem jpass_nocopy_eq (s : JSt) (t : Nat) (tk : Bool) (nx : Option (Nat × List Nat)) (hb : s.buf ≠ [])
    (hc : s.cfg.noCopy = true) :
    jpass s t tk nx =
      { s with out := s.out ++ [s.buf], events := s.events ++ [JEvent.emit 0 s.buf], emitAt := s.emitAt ++ [t],
               byTick := s.byTick ++ [tk], pc := .await nx } := by
  simp [jpass, hb, hc, jsend]

theorem jpass_cases (s : JSt) (t : Nat) (tk : Bool) (nx : Option (Nat × List Nat)) :
    (s.buf = [] ∧ jpass s t tk nx = { s with passAt := t }) ∨
    (s.buf ≠ [] ∧ s.cfg.noCopy = false ∧ jpass s t tk nx =
      { s with out := s.out ++ [s.buf], events := s.events ++ [JEvent.emit s.nextId s.buf] ++ [JEvent.write],
               emitAt := s.emitAt ++ [t], byTick := s.byTick ++ [tk], nextId := s.nextId + 1, buf := [],
               passAt := t }) ∨
    (s.buf ≠ [] ∧ s.cfg.noCopy = true ∧ jpass s t tk nx =
      { s with out := s.out ++ [s.buf], events := s.events ++ [JEvent.emit 0 s.buf], emitAt := s.emitAt ++ [t],
               byTick := s.byTick ++ [tk], pc := .await nx }) := by
  by_cases hb : s.buf = []
  · exact Or.inl ⟨hb, jpass_empty_eq s t tk nx hb⟩
  · cases hc : s.cfg.noCopy with
    | false => exact Or.inr (Or.inl ⟨hb, rfl, jpass_copy_eq s t tk nx hb hc⟩)
    | true => exact Or.inr (Or.inr ⟨hb, rfl, jpass_nocopy_eq s t tk nx hb hc⟩)

theorem jpass_out (s : JSt) (t : Nat) (tk : Bool) (nx : Option (Nat × List Nat)) :
    (jpass s t tk nx).out = if s.buf = [] then s.out else s.out ++ [s.buf] := by
  rcases jpass_cases s t tk nx with ⟨hb, e⟩ | ⟨hb, _, e⟩ | ⟨hb, _, e⟩ <;> rw [e]
  · rw [if_pos hb]
  · rw [if_neg hb]
  · rw [if_neg hb]

theorem jpass_byTick (s : JSt) (t : Nat) (tk : Bool) (nx : Option (Nat × List Nat)) :
    (jpass s t tk nx).byTick = if s.buf = [] then s.byTick else s.byTick ++ [tk] := by
  rcases jpass_cases s t tk nx with ⟨hb, e⟩ | ⟨hb, _, e⟩ | ⟨hb, _, e⟩ <;> rw [e]
  · rw [if_pos hb]
  · rw [if_neg hb]
  · rw [if_neg hb]

theorem jpass_consumed (s : JSt) (t : Nat) (tk : Bool) (nx : Option (Nat × List Nat)) :
    (jpass s t tk nx).consumed = s.consumed := by
  rcases jpass_cases s t tk nx with ⟨_, e⟩ | ⟨_, _, e⟩ | ⟨_, _, e⟩ <;> rw [e]

theorem jpass_pc (s : JSt) (t : Nat) (tk : Bool) (nx : Option (Nat × List Nat)) :
    (jpass s t tk nx).pc = if s.buf ≠ [] ∧ s.cfg.noCopy = true then .await nx else s.pc := by
  rcases jpass_cases s t tk nx with ⟨hb, e⟩ | ⟨hb, hc, e⟩ | ⟨hb, hc, e⟩ <;> rw [e]
  · simp [hb]
  · simp [hc]
  · simp [hb, hc]

theorem jpass_buf_of_run {s : JSt} {t : Nat} {tk : Bool} {nx : Option (Nat × List Nat)}
    (h : (jpass s t tk nx).pc = .run) : (jpass s t tk nx).buf = [] := by
  rcases jpass_cases s t tk nx with ⟨hb, e⟩ | ⟨_, _, e⟩ | ⟨_, _, e⟩ <;> rw [e] at h ⊢
  · exact hb
  · cases h

theorem jappendPath_eq (s : JSt) (xs : List Nat) (t : Nat) :
    jappendPath s xs t = if s.buf.length + xs.length < s.cfg.size then jappend s xs t
      else jpass (jappend s xs t) t false none := by
  simp [jappendPath, jappend]

theorem jappendPath_passAt (s : JSt) (xs : List Nat) (t : Nat) (h : s.passAt = t) :
    (jappendPath s xs t).passAt = t := by
  rw [jappendPath_eq]
  split
  · exact h
  · rcases jpass_cases (jappend s xs t) t false none with ⟨_, e⟩ | ⟨_, _, e⟩ | ⟨_, _, e⟩ <;> rw [e]
    exact h

theorem jforward_copy_eq (s : JSt) (id : Nat) (xs : List Nat) (t : Nat) (hc : s.cfg.noCopy = false) :
    jforward s id xs t =
      { s with out := s.out ++ [xs], events := s.events ++ [JEvent.emit s.nextId xs], emitAt := s.emitAt ++ [t],
               byTick := s.byTick ++ [false], nextId := s.nextId + 1, passAt := t } := by
  simp [jforward, jsend, hc]

theorem jforward_nocopy_eq (s : JSt) (id : Nat) (xs : List Nat) (t : Nat) (hc : s.cfg.noCopy = true) :
    jforward s id xs t =
      { s with out := s.out ++ [xs], events := s.events ++ [JEvent.emit id xs], emitAt := s.emitAt ++ [t],
               byTick := s.byTick ++ [false], pc := .await none } := by
  simp [jforward, jsend, hc]

theorem jcont_big (s : JSt) (id : Nat) (xs : List Nat) (t : Nat) (h : s.cfg.size ≤ xs.length) :
    jcont s id xs t = jforward { s with passAt := t } id xs t := by simp [jcont, h]

theorem jcont_small (s : JSt) (id : Nat) (xs : List Nat) (t : Nat) (h : xs.length < s.cfg.size) :
    jcont s id xs t = jappendPath s xs t := by simp [jcont, Nat.not_le.2 h]

/-! Unite takes a slice: `jcont ∘ jlog`.  Stated for the composition, with the hypotheses about
    `s` itself: applied to `jlog s xs` or a record update of `s`, the equations above get their
    state inferred from a hypothesis like `s.cfg.noCopy = _`, wrongly. -/

theorem jtake_small {s : JSt} {xs : List Nat} (id t : Nat) (h : xs.length < s.cfg.size) :
    jcont (jlog s xs) id xs t = jappendPath (jlog s xs) xs t := jcont_small (jlog s xs) id xs t h

theorem jtake_big_copy {s : JSt} {xs : List Nat} (id t : Nat) (h : s.cfg.size ≤ xs.length)
    (hc : s.cfg.noCopy = false) :
    jcont (jlog s xs) id xs t =
      { s with consumed := s.consumed ++ [xs], out := s.out ++ [xs],
               events := s.events ++ [JEvent.emit s.nextId xs], emitAt := s.emitAt ++ [t],
               byTick := s.byTick ++ [false], nextId := s.nextId + 1, passAt := t } := by
  rw [jcont_big (jlog s xs) id xs t h, jforward_copy_eq { jlog s xs with passAt := t } id xs t hc]
  rfl

theorem jtake_big_nocopy {s : JSt} {xs : List Nat} (id t : Nat) (h : s.cfg.size ≤ xs.length)
    (hc : s.cfg.noCopy = true) :
    jcont (jlog s xs) id xs t =
      { s with consumed := s.consumed ++ [xs], out := s.out ++ [xs], events := s.events ++ [JEvent.emit id xs],
               emitAt := s.emitAt ++ [t], byTick := s.byTick ++ [false], passAt := t, pc := .await none } := by
  rw [jcont_big (jlog s xs) id xs t h, jforward_nocopy_eq { jlog s xs with passAt := t } id xs t hc]
  rfl

/-- what no building block touches -/
structure Frame (s u : JSt) : Prop where
  cfg : u.cfg = s.cfg
  closing : u.closing = s.closing
  stopped : u.stopped = s.stopped
  unreleased : u.unreleased = s.unreleased

theorem Frame.trans {s u v : JSt} (h1 : Frame s u) (h2 : Frame u v) : Frame s v :=
  ⟨h2.cfg.trans h1.cfg, h2.closing.trans h1.closing, h2.stopped.trans h1.stopped,
    h2.unreleased.trans h1.unreleased⟩

theorem jappend_frame (s : JSt) (xs : List Nat) (t : Nat) : Frame s (jappend s xs t) := ⟨rfl, rfl, rfl, rfl⟩

theorem jlog_frame (s : JSt) (xs : List Nat) : Frame s (jlog s xs) := ⟨rfl, rfl, rfl, rfl⟩

theorem jpass_frame (s : JSt) (t : Nat) (tk : Bool) (nx : Option (Nat × List Nat)) :
    Frame s (jpass s t tk nx) := by
  rcases jpass_cases s t tk nx with ⟨_, e⟩ | ⟨_, _, e⟩ | ⟨_, _, e⟩ <;> rw [e] <;> exact ⟨rfl, rfl, rfl, rfl⟩

theorem jappendPath_frame (s : JSt) (xs : List Nat) (t : Nat) : Frame s (jappendPath s xs t) := by
  rw [jappendPath_eq]
  split
  · exact jappend_frame s xs t
  · exact (jappend_frame s xs t).trans (jpass_frame _ _ _ _)

theorem jcont_frame (s : JSt) (id : Nat) (xs : List Nat) (t : Nat) : Frame s (jcont s id xs t) := by
  unfold jcont
  split
  · unfold jforward jsend
    split <;> exact ⟨rfl, rfl, rfl, rfl⟩
  · exact jappendPath_frame s xs t

theorem jtake_frame (s : JSt) (id : Nat) (xs : List Nat) (t : Nat) : Frame s (jcont (jlog s xs) id xs t) :=
  (jlog_frame s xs).trans (jcont_frame _ _ _ _)

/-- the buffer does not stand in the way of the input slice `xs` (unite): it is empty when `xs`
    is oversize, and `xs` fits otherwise — the negation of `needPass` -/
def FitsIn (size : Nat) (buf xs : List Nat) : Prop :=
  (size ≤ xs.length → buf = []) ∧ (xs.length < size → buf.length + xs.length ≤ size)

abbrev Fits (s : JSt) (xs : List Nat) : Prop := FitsIn s.cfg.size s.buf xs

theorem FitsIn.of_nil (size : Nat) (xs : List Nat) : FitsIn size [] xs :=
  ⟨fun _ => rfl, fun hlt => by simp; omega⟩

/-- the test of `needPass`, on the size and the buffer alone -/
theorem needPass_cond_eq_false {size : Nat} {buf xs : List Nat} :
    ((decide (xs.length ≥ size) || decide (xs.length + buf.length > size)) && !buf.isEmpty) = false ↔
      FitsIn size buf xs := by
  simp only [FitsIn, Bool.and_eq_false_iff, Bool.or_eq_false_iff, decide_eq_false_iff_not,
    Bool.not_eq_false', List.isEmpty_iff]
  constructor
  · rintro (⟨h1, h2⟩ | h)
    · exact ⟨fun h => absurd h h1, fun _ => by omega⟩
    · rw [h]; exact FitsIn.of_nil size xs
  · rintro ⟨h1, h2⟩
    by_cases hb : buf = []
    · exact Or.inr hb
    · have hov : ¬ size ≤ xs.length := fun h => hb (h1 h)
      exact Or.inl ⟨hov, fun h => by have := h2 (by omega); omega⟩

theorem Fits.of_nil {s : JSt} (h : s.buf = []) (xs : List Nat) : Fits s xs := by
  rw [Fits, h]; exact FitsIn.of_nil _ xs

theorem needPass_cond_eq_true {size : Nat} {buf xs : List Nat} :
    ((decide (xs.length ≥ size) || decide (xs.length + buf.length > size)) && !buf.isEmpty) = true ↔
      buf ≠ [] ∧ (size ≤ xs.length ∨ size < xs.length + buf.length) := by
  simp only [Bool.and_eq_true, Bool.or_eq_true, decide_eq_true_eq, Bool.not_eq_true', List.isEmpty_eq_false_iff]
  exact And.comm

/-- the buffer stands in the way: it is not empty, and `xs` is oversize or does not fit -/
theorem not_fitsIn {size : Nat} {buf xs : List Nat} :
    ¬ FitsIn size buf xs ↔ buf ≠ [] ∧ (size ≤ xs.length ∨ size < xs.length + buf.length) := by
  rw [← needPass_cond_eq_false, Bool.not_eq_false, needPass_cond_eq_true]

theorem needPass_eq_false {s : JSt} {xs : List Nat} : needPass s xs = false ↔ Fits s xs :=
  needPass_cond_eq_false

theorem needPass_of_not_fits {s : JSt} {xs : List Nat} (h : ¬ Fits s xs) : needPass s xs = true :=
  needPass_cond_eq_true.2 (not_fitsIn.1 h)

theorem jpass_jlog (s : JSt) (xs : List Nat) (t : Nat) (tk : Bool) (nx : Option (Nat × List Nat)) :
    jpass (jlog s xs) t tk nx = jlog (jpass s t tk nx) xs := by
  rcases jpass_cases s t tk nx with ⟨hb, e⟩ | ⟨hb, hc, e⟩ | ⟨hb, hc, e⟩ <;> rw [e]
  · exact jpass_empty_eq (jlog s xs) t tk nx hb
  · exact jpass_copy_eq (jlog s xs) t tk nx hb hc
  · exact jpass_nocopy_eq (jlog s xs) t tk nx hb hc

theorem jprocess_join {s : JSt} (id : Nat) (xs : List Nat) (t : Nat) (hk : s.cfg.kind = .join) :
    jprocess s id xs t = jappendPath (jlog s xs) xs t := by simp [jprocess, hk]

theorem jprocess_take {s : JSt} {xs : List Nat} (id t : Nat) (hk : s.cfg.kind = .unite) (hf : Fits s xs) :
    jprocess s id xs t = jcont (jlog s xs) id xs t := by
  simp [jprocess, hk, needPass_eq_false.2 hf]

theorem jprocess_hold {s : JSt} {xs : List Nat} (id t : Nat) (hk : s.cfg.kind = .unite) (hf : ¬ Fits s xs)
    (hc : s.cfg.noCopy = true) : jprocess s id xs t = jpass s t false (some (id, xs)) := by
  simp [jprocess, hk, needPass_of_not_fits hf, hc]

theorem jprocess_flush {s : JSt} {xs : List Nat} (id t : Nat) (hk : s.cfg.kind = .unite) (hf : ¬ Fits s xs)
    (hc : s.cfg.noCopy = false) : jprocess s id xs t = jcont (jlog (jpass s t false none) xs) id xs t := by
  simp [jprocess, hk, needPass_of_not_fits hf, hc, jpass_jlog]

/-- the state after the release proper (`resetJoin`, `resetPassAt`), before an interrupted
    `process` is resumed -/
def jrelease (s : JSt) (t : Nat) : JSt :=
  { s with events := s.events ++ .released :: (if s.buf = [] then [] else [.write]),
           pc := if s.closing then .done else .run, buf := [], passAt := t }

theorem jrelease_frame (s : JSt) (t : Nat) : Frame s (jrelease s t) := ⟨rfl, rfl, rfl, rfl⟩

theorem jrelease_pc_run {s : JSt} (t : Nat) (h : s.closing = false) : (jrelease s t).pc = .run := by
  simp [jrelease, h]

theorem jrelease_pc_done {s : JSt} (t : Nat) (h : s.closing = true) : (jrelease s t).pc = .done :=
  if_pos h

theorem jrelease_pc_ne_await (s : JSt) (t : Nat) (n : Option (Nat × List Nat)) : (jrelease s t).pc ≠ .await n := by
  unfold jrelease
  split <;> nofun

/-- every enabled step of `jstep`, with its guard and its successor -/
inductive JStep : JSt → JAct → JSt → Prop
  /-- v1: an element arriving after `unreleased` was set is ignored -/
  | skip {s : JSt} {id : Nat} {xs : List Nat} {t : Nat} : s.pc = .run → s.cfg.v1 = true → s.unreleased = true →
      JStep s (.item id xs t) s
  | join {s : JSt} {id : Nat} {xs : List Nat} {t : Nat} : s.pc = .run → s.cfg.kind = .join → xs.length = 1 →
      JStep s (.item id xs t) (jappendPath (jlog s xs) xs t)
  /-- unite, the buffer is in the way, no-copy: it is handed out and `xs` waits for the release -/
  | hold {s : JSt} {id : Nat} {xs : List Nat} {t : Nat} : s.pc = .run → s.cfg.kind = .unite → ¬ Fits s xs →
      s.buf ≠ [] → s.cfg.noCopy = true → JStep s (.item id xs t) (jpass s t false (some (id, xs)))
  /-- unite, the buffer is in the way, copy: it is emitted, then `xs` is taken -/
  | flush {s : JSt} {id : Nat} {xs : List Nat} {t : Nat} : s.pc = .run → s.cfg.kind = .unite → ¬ Fits s xs →
      s.buf ≠ [] → s.cfg.noCopy = false → JStep s (.item id xs t) (jcont (jlog (jpass s t false none) xs) id xs t)
  | take {s : JSt} {id : Nat} {xs : List Nat} {t : Nat} : s.pc = .run → s.cfg.kind = .unite → Fits s xs →
      JStep s (.item id xs t) (jcont (jlog s xs) id xs t)
  | idle {s : JSt} {t : Nat} : s.pc = .run → s.cfg.timeout ≠ 0 → t - s.passAt < s.cfg.timeout →
      JStep s (.tick t) s
  | tick {s : JSt} {t : Nat} : s.pc = .run → s.cfg.timeout ≠ 0 → s.cfg.timeout ≤ t - s.passAt →
      JStep s (.tick t) (jpass s t true none)
  /-- close, no-copy with something buffered: the final slice awaits its release -/
  | closeHold {s : JSt} {t : Nat} : s.pc = .run → s.buf ≠ [] → s.cfg.noCopy = true →
      JStep s (.close t) { jpass s t false none with closing := true }
  | closeDone {s : JSt} {t : Nat} : s.pc = .run → ¬ (s.buf ≠ [] ∧ s.cfg.noCopy = true) →
      JStep s (.close t) { jpass s t false none with pc := .done, closing := true }
  | release {s : JSt} {t : Nat} : s.pc = .await none → JStep s (.release t) (jrelease s t)
  | resume {s : JSt} {id : Nat} {xs : List Nat} {t : Nat} : s.pc = .await (some (id, xs)) →
      JStep s (.release t) (jcont (jlog (jrelease s t) xs) id xs t)
  | stop {s : JSt} : s.cfg.v1 = true → JStep s .stop { s with stopped := true }
  | stopRun {s : JSt} {t : Nat} : s.pc = .run → s.cfg.v1 = true → s.stopped = true →
      JStep s (.stopSeen t) { s with pc := .done, passAt := t }
  | stopAwait {s : JSt} {n : Option (Nat × List Nat)} {t : Nat} : s.pc = .await n → s.cfg.v1 = true →
      s.stopped = true → JStep s (.stopSeen t) { s with pc := .done, unreleased := true }
  /-- v1: the deferred `pass()` still gets its slice out; no-copy: it is never released -/
  | stopFlush {s : JSt} {t : Nat} : s.pc = .run → s.cfg.v1 = true → s.stopped = true →
      JStep s (.stopFlush t)
        { jpass s t false none with
          pc := .done, buf := [], unreleased := decide (s.buf ≠ [] ∧ s.cfg.noCopy = true) || s.unreleased }

/-- the state the model computes after a release is `jrelease` -/
theorem jrelease_model (s : JSt) (t : Nat) :
    (if s.buf = [] then
        { ({ s with events := s.events ++ [.released], pc := if s.closing then .done else .run } : JSt) with
          passAt := t }
      else jafterPass { s with events := s.events ++ [.released], pc := if s.closing then .done else .run } t) =
      jrelease s t := by
  unfold jrelease jafterPass
  split <;> simp_all

theorem JStep.of_jstep {s s' : JSt} {a : JAct} (h : jstep s a = some s') : JStep s a s' := by
  -- whether `pass()` ends in `await` is decided by the buffer and the mode
  have hpass : ∀ t, (s.buf ≠ [] ∧ s.cfg.noCopy = true ∧ (jpass s t false none).pc = .await none) ∨
      (¬ (s.buf ≠ [] ∧ s.cfg.noCopy = true) ∧ (jpass s t false none).pc = s.pc) := by
    intro t
    have hp := jpass_pc s t false none
    by_cases hh : s.buf ≠ [] ∧ s.cfg.noCopy = true
    · rw [if_pos hh] at hp; exact Or.inl ⟨hh.1, hh.2, hp⟩
    · rw [if_neg hh] at hp; exact Or.inr ⟨hh, hp⟩
  revert s'
  -- the leaves of `jstep` in source order; a leaf `none = some s'` falls to `cases h`
  fun_cases jstep s a <;> intro s' h <;> try cases h
  case case2 hpc _ hv => exact .skip hpc hv.1 hv.2
  case case3 id xs t hpc hj _ =>
    cases hk : s.cfg.kind with
    | join =>
      rw [jprocess_join id xs t hk]
      exact .join hpc hk (Decidable.by_contra fun hx => hj ⟨hk, hx⟩)
    | unite =>
      by_cases hf : Fits s xs
      · rw [jprocess_take id t hk hf]
        exact .take hpc hk hf
      · have hb : s.buf ≠ [] := fun hb => hf (Fits.of_nil hb xs)
        cases hc : s.cfg.noCopy with
        | false =>
          rw [jprocess_flush id t hk hf hc]
          exact .flush hpc hk hf hb hc
        | true =>
          rw [jprocess_hold id t hk hf hc]
          exact .hold hpc hk hf hb hc
  case case5 hpc h0 hge => exact .tick hpc h0 hge
  case case6 hpc h0 hlt => exact .idle hpc h0 (Nat.not_le.1 hlt)
  case case7 t hpc _ n hn =>
    rcases hpass t with ⟨hb, hc, _⟩ | ⟨_, hp⟩
    · exact .closeHold hpc hb hc
    · rw [hp, hpc] at hn; cases hn
  case case8 t hpc _ hn =>
    rcases hpass t with ⟨_, _, hp⟩ | ⟨hh, _⟩
    · exact absurd hp (hn _)
    · exact .closeDone hpc hh
  case case9 t _ s2 hpc =>
    have e : s2 = jrelease s t := jrelease_model s t
    exact e ▸ .release hpc
  case case10 t _ s2 _ _ hpc =>
    have e : s2 = jrelease s t := jrelease_model s t
    exact e ▸ .resume hpc
  case case11 hv => exact .stop hv
  case case13 hpc hv => exact .stopRun hpc hv.1 hv.2
  case case15 t hpc hv =>
    have := JStep.stopFlush (t := t) hpc hv.1 hv.2
    simp only
    split
    · rename_i hn
      rcases hpass t with ⟨hb, hc, _⟩ | ⟨_, hp⟩
      · simpa [hb, hc] using this
      · rw [hp, hpc] at hn; cases hn
    · rename_i hn
      rcases hpass t with ⟨_, _, hp⟩ | ⟨hh, _⟩
      · exact absurd hp (hn _)
      · simpa [hh] using this
  case case17 hpc hv => exact .stopAwait hpc hv.1 hv.2

/-! Single enabled steps, for the modules that need one: unfolding `jstep` there makes Lean
    derive the equations of its match once more. -/

theorem jstep_tick {s : JSt} {t : Nat} (hpc : s.pc = .run) (h0 : s.cfg.timeout ≠ 0)
    (hge : s.cfg.timeout ≤ t - s.passAt) : jstep s (.tick t) = some (jpass s t true none) := by
  unfold jstep
  rw [hpc]
  exact (if_neg h0).trans (if_pos hge)

theorem jstep_stopSeen_run {s : JSt} {t : Nat} (hpc : s.pc = .run) (hv : s.cfg.v1 = true)
    (hst : s.stopped = true) : jstep s (.stopSeen t) = some { s with pc := .done, passAt := t } := by
  unfold jstep
  rw [hpc]
  exact if_pos ⟨hv, hst⟩

theorem jstep_stopSeen_await {s : JSt} {n : Option (Nat × List Nat)} {t : Nat} (hpc : s.pc = .await n)
    (hv : s.cfg.v1 = true) (hst : s.stopped = true) :
    jstep s (.stopSeen t) = some { s with pc := .done, unreleased := true } := by
  unfold jstep
  rw [hpc]
  exact if_pos ⟨hv, hst⟩

theorem JStep.cfg_eq {s s' : JSt} {a : JAct} (h : JStep s a s') : s'.cfg = s.cfg := by
  cases h with
  | join => exact (jappendPath_frame _ _ _).cfg
  | hold | tick | closeHold | closeDone | stopFlush => exact (jpass_frame _ _ _ _).cfg
  | flush => exact (jcont_frame _ _ _ _).cfg.trans (jpass_frame _ _ _ _).cfg
  | take | resume => exact (jcont_frame _ _ _ _).cfg
  | skip | idle | release | stop | stopRun | stopAwait => rfl

theorem jrun_eq_foldlM (s : JSt) (acts : List JAct) : jrun s acts = acts.foldlM jstep s :=
  eq_foldlM jstep jrun (fun _ => rfl) (fun s a _ => by rw [jrun]; cases jstep s a <;> rfl) s acts

theorem jrun_induction {I : JSt → Prop} (hstep : ∀ {s a s'}, I s → JStep s a s' → I s')
    {acts : List JAct} {s s' : JSt} (h : I s) (hr : jrun s acts = some s') : I s' :=
  foldlM_induction (fun _ _ _ hi hs => hstep hi (.of_jstep hs)) h (jrun_eq_foldlM s acts ▸ hr)

end Cqos
