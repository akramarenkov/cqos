/-
  The machines of the model run an action list the same way: `List.foldlM` of the step
  function in `Option`.  What follows from that shape alone is proved here once; a machine
  needs only the bridge `run s acts = acts.foldlM step s`, which `eq_foldlM` gives from the two
  equations of its run function.
-/
namespace Cqos

theorem eq_foldlM {σ α} (f : σ → α → Option σ) (r : σ → List α → Option σ) (hnil : ∀ s, r s [] = some s)
    (hcons : ∀ s a as, r s (a :: as) = (f s a).bind (r · as)) (s : σ) (acts : List α) : r s acts = acts.foldlM f s := by
  induction acts generalizing s with
  | nil => exact hnil s
  | cons a as ih => rw [hcons, List.foldlM_cons]; exact congrArg _ (funext (ih ·))

theorem foldlM_cons_some {σ α} {f : σ → α → Option σ} {s s' : σ} {a : α} {as : List α} :
    (a :: as).foldlM f s = some s' ↔ ∃ s1, f s a = some s1 ∧ as.foldlM f s1 = some s' := by
  rw [List.foldlM_cons]; exact Option.bind_eq_some_iff

theorem foldlM_append_some {σ α} {f : σ → α → Option σ} {s s' : σ} {l1 l2 : List α} :
    (l1 ++ l2).foldlM f s = some s' ↔ ∃ s1, l1.foldlM f s = some s1 ∧ l2.foldlM f s1 = some s' := by
  rw [List.foldlM_append]; exact Option.bind_eq_some_iff

theorem foldlM_induction {σ α} {f : σ → α → Option σ} {I : σ → Prop}
    (hstep : ∀ s a s', I s → f s a = some s' → I s') {acts : List α} {s s' : σ} (h : I s)
    (hr : acts.foldlM f s = some s') : I s' := by
  induction acts generalizing s with
  | nil => cases hr; exact h
  | cons a as ih =>
    obtain ⟨s1, h1, h2⟩ := foldlM_cons_some.1 hr
    exact ih (hstep s a s1 h h1) h2

end Cqos
