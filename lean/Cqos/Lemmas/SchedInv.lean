import Cqos.Lemmas.DistKeys
/-
  The invariant of the scheduler machine behind C01 (capacity) and fault freedom: `Inv`, with
  what `clearActual` does to a map and how the accounting `Core` moves under each kind of
  transition.  That every transition keeps it — for every divider function, both versions — is
  `C01.step_inv` (Props/C01.lean).
-/
namespace Cqos

theorem keys_clearActual (inputs : List (Nat × Input)) (m : Dist) :
    ((clearActual inputs m).map (·.1)).Sublist (m.map (·.1)) := by
  fun_induction clearActual inputs m with
  | case1 => exact List.Sublist.refl _
  | case2 _ _ _ _ ih => exact ih.cons _
  | case3 _ _ _ _ ih => exact ih.cons_cons _

theorem nodupKeys_clearActual (inputs : List (Nat × Input)) (m : Dist) (h : m.NodupKeys) :
    (clearActual inputs m).NodupKeys := (keys_clearActual inputs m).nodup h

theorem total_clearActual (inputs : List (Nat × Input)) (m : Dist) :
    (clearActual inputs m).total = m.total := by
  fun_induction clearActual inputs m <;> simp_all [Dist.total]

theorem get_clearActual (inputs : List (Nat × Input)) (m : Dist) (h : m.NodupKeys) (p : Nat) :
    (clearActual inputs m).get p = m.get p := by
  induction m with
  | nil => rfl
  | cons e r ih =>
    obtain ⟨k, v⟩ := e
    simp only [Dist.NodupKeys, List.map_cons, List.nodup_cons] at h
    simp only [clearActual]
    split
    · rename_i hz
      simp only [Dist.get]
      split
      · rename_i hk; subst hk
        rw [ih h.2, Dist.get_eq_zero_of_not_mem _ _ h.1, hz.1]
      · exact ih h.2
    · simp only [Dist.get]
      split
      · rfl
      · exact ih h.2

/-- accounting: the discipline's `actual` = true in-flight + releases issued but not yet
    consumed, per priority and in total -/
structure Core (actual inflight : Dist) (pending : List Nat) : Prop where
  perKey : ∀ p, actual.get p = inflight.get p + pending.count p
  tot : actual.total = inflight.total + pending.length
  nd : actual.NodupKeys

/-- what is occupied plus what is allotted never exceeds the handlers quantity -/
def capOk (H : Nat) (pc : Pc) (actual tactic : Dist) : Prop :=
  match pc with
  | .prio _ _ => actual.total + tactic.total ≤ H
  | _ => actual.total ≤ H

structure Inv (s : St) : Prop where
  core : Core s.actual s.inflight s.pending
  cap : capOk s.cfg.H s.pc s.actual s.tactic
  nofault : s.pc ≠ .fault

theorem capOk_weaken {H : Nat} {pc : Pc} {actual tactic : Dist} (h : capOk H pc actual tactic) :
    actual.total ≤ H := by
  unfold capOk at h
  split at h <;> omega

theorem capOk_of_le {H : Nat} {pc : Pc} {actual tactic : Dist} (h : actual.total ≤ H)
    (hpc : ∀ ph rest, pc ≠ .prio ph rest) : capOk H pc actual tactic := by
  unfold capOk
  split
  · rename_i ph rest; exact absurd rfl (hpc ph rest)
  · exact h

theorem core_consume {a i : Dist} {pend : List Nat} (h : Core a i pend) (p : Nat) (hp : p ∈ pend) :
    a.get p ≠ 0 ∧ Core (a.set p (a.get p - 1)) i (pend.erase p) ∧
      (a.set p (a.get p - 1)).total + 1 = a.total := by
  have hc : pend.count p = (pend.erase p).count p + 1 := by
    rw [List.count_erase_self]; exact (Nat.sub_add_cancel (List.count_pos_iff.2 hp)).symm
  have hl : pend.length = (pend.erase p).length + 1 := by
    rw [List.length_erase_of_mem hp]; exact (Nat.sub_add_cancel (List.length_pos_of_mem hp)).symm
  -- `actual[p]` is a successor, so the decrement is exact
  have hg : a.get p = i.get p + (pend.erase p).count p + 1 := by rw [h.perKey p, hc, Nat.add_assoc]
  have htot := Dist.total_set_pred (hg ▸ Nat.succ_ne_zero _ : a.get p ≠ 0)
  refine ⟨hg ▸ Nat.succ_ne_zero _, ⟨fun q => ?_, ?_, Dist.nodupKeys_set _ _ _ h.nd⟩, htot⟩
  · rw [Dist.get_set]
    split
    · rename_i e; subst e; rw [hg, Nat.add_sub_cancel]
    · rename_i e; rw [List.count_erase_of_ne (Ne.symm e)]; exact h.perKey q
  · have := h.tot; omega

theorem core_deliver {a i : Dist} {pend : List Nat} (h : Core a i pend) (p : Nat) :
    Core (a.add p 1) (i.add p 1) pend := by
  refine ⟨?_, ?_, Dist.nodupKeys_add _ _ _ h.nd⟩
  · intro q; rw [Dist.get_add, Dist.get_add, h.perKey q]; omega
  · rw [Dist.total_add, Dist.total_add, h.tot]; omega

theorem core_release {a i : Dist} {pend : List Nat} (h : Core a i pend) (p : Nat) (hp : i.get p ≠ 0) :
    Core a (i.set p (i.get p - 1)) (pend ++ [p]) := by
  have htot := Dist.total_set_pred hp
  refine ⟨fun q => ?_, ?_, h.nd⟩
  · rw [Dist.get_set, List.count_append, h.perKey q]
    split
    · rename_i e; subst e; rw [List.count_singleton_self]; omega
    · rename_i e; rw [List.count_singleton, if_neg (by simpa using e), Nat.add_zero]
  · rw [h.tot, List.length_append, List.length_singleton]; omega

theorem core_clear {a i : Dist} {pend : List Nat} (h : Core a i pend) (inputs : List (Nat × Input)) :
    Core (clearActual inputs a) i pend :=
  ⟨fun q => by rw [get_clearActual _ _ h.nd]; exact h.perKey q,
   by rw [total_clearActual]; exact h.tot,
   nodupKeys_clearActual _ _ h.nd⟩

end Cqos
