import Cqos.Lemmas.DistKeys
/-
  Sums of a distribution over a list of priorities, and their relation to `Dist.total`.
-/
namespace Cqos

def sumOver (ps : List Nat) (m : Dist) : Nat := (ps.map m.get).sum

theorem sumOver_cons (p : Nat) (ps : List Nat) (m : Dist) : sumOver (p :: ps) m = m.get p + sumOver ps m := rfl

theorem sumOver_eq_zero {ps : List Nat} {m : Dist} (h : ∀ p ∈ ps, m.get p = 0) : sumOver ps m = 0 := by
  induction ps with
  | nil => rfl
  | cons p ps ih => rw [sumOver_cons, h p (by simp), ih (fun q hq => h q (by simp [hq]))]

theorem total_eq_sumOver (ps : List Nat) (hps : ps.Nodup) (m : Dist) (hn : m.NodupKeys)
    (hout : ∀ k, k ∉ ps → m.get k = 0) : m.total = sumOver ps m := by
  induction ps generalizing m with
  | nil => exact Dist.total_zero_of_get_zero m hn (fun k => hout k (by simp))
  | cons p ps ih =>
    have hnd := List.nodup_cons.1 hps
    have he := Dist.total_erase m p
    have hrec := ih hnd.2 (m.erase p) (Dist.nodupKeys_erase m p hn) (fun k hk => by
      rw [Dist.get_erase m p k hn]; split
      · rfl
      · rename_i hkp; exact hout k (by simp [hk, Ne.symm hkp]))
    have hsame : sumOver ps (m.erase p) = sumOver ps m := by
      unfold sumOver
      congr 1
      apply List.map_congr_left
      intro q hq
      rw [Dist.get_erase m p q hn, if_neg (fun e : p = q => hnd.1 (e ▸ hq))]
    rw [sumOver_cons, ← he, hrec, hsame, Nat.add_comm]

theorem sumOver_le_of_le {ps : List Nat} {a b : Dist} (hle : ∀ p ∈ ps, a.get p ≤ b.get p) :
    sumOver ps a ≤ sumOver ps b := by
  induction ps with
  | nil => exact Nat.le_refl _
  | cons q qs ih =>
    exact Nat.add_le_add (hle q List.mem_cons_self) (ih fun p hp => hle p (List.mem_cons_of_mem _ hp))

theorem eq_of_sum_eq_of_le (ps : List Nat) (a b : Dist) (hle : ∀ p ∈ ps, a.get p ≤ b.get p)
    (hs : sumOver ps a = sumOver ps b) : ∀ p ∈ ps, a.get p = b.get p := by
  induction ps with
  | nil => exact fun p hp => nomatch hp
  | cons q qs ih =>
    have hq := hle q List.mem_cons_self
    have hle' : ∀ p ∈ qs, a.get p ≤ b.get p := fun p hp => hle p (List.mem_cons_of_mem _ hp)
    have hqs := sumOver_le_of_le hle'
    rw [sumOver_cons, sumOver_cons] at hs
    exact List.forall_mem_cons.2 ⟨by omega, ih hle' (by omega)⟩

end Cqos
