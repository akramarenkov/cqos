import Cqos.Limit
import Cqos.Lemmas.Fold
/-
  The limit machine as a relation.  `LStep s a s'` lists the six enabled transitions of `lstep`
  with the successor written out: a step lemma is a `cases` on it, and a statement about runs
  goes through `lrun_induction`.
-/
namespace Cqos

inductive LStep (s : LSt) : LAct → LSt → Prop
  | start (t : Nat) : s.pc = .idle → s.now ≤ t →
      LStep s (.start t) { s with pc := .batch 0 t, now := t, starts := s.starts ++ [t] }
  | recv (k st x : Nat) : s.pc = .batch k st → k < s.cfg.quantity →
      LStep s (.recv x) { s with pc := .holding k st x, received := s.received ++ [x] }
  | closed (k st : Nat) : s.pc = .batch k st → k < s.cfg.quantity → LStep s .closed { s with pc := .done }
  | sent (k st x t : Nat) : s.pc = .holding k st x → s.now ≤ t →
      LStep s (.sent t) { s with pc := .batch (k + 1) st, now := t, sent := s.sent ++ [(x, t)] }
  | batchEnd (k st t : Nat) : s.pc = .batch k st → k = s.cfg.quantity → s.now ≤ t →
      LStep s (.batchEnd t) { s with
        pc := .sleeping (max t (st + s.cfg.interval)), now := t,
        sleeps := s.sleeps ++ [(s.cfg.interval : Int) - ((t : Int) - (st : Int))] }
  | wake (u t : Nat) : s.pc = .sleeping u → u ≤ t → s.now ≤ t →
      LStep s (.wake t) { s with pc := .idle, now := t }

theorem LStep.of_lstep {s s' : LSt} {a : LAct} (h : lstep s a = some s') : LStep s a s' := by
  unfold lstep at h
  -- one goal per enabled transition is left, its guard and `s.pc = …` among the hypotheses
  split at h <;> first | cases h | (split at h <;> cases h)
  · exact .start _ ‹_› ‹_›
  · exact .recv _ _ _ ‹_› ‹_›
  · exact .closed _ _ ‹_› ‹_›
  · exact .sent _ _ _ _ ‹_› ‹_›
  · exact .batchEnd _ _ _ ‹_› (‹_ ∧ _›).1 (‹_ ∧ _›).2
  · exact .wake _ _ ‹_› (‹_ ∧ _›).1 (‹_ ∧ _›).2

theorem LStep.cfg_eq {s s' : LSt} {a : LAct} (h : LStep s a s') : s'.cfg = s.cfg := by cases h <;> rfl

theorem LStep.t0_eq {s s' : LSt} {a : LAct} (h : LStep s a s') : s'.t0 = s.t0 := by cases h <;> rfl

theorem LStep.sent_same {s s' : LSt} {a : LAct} (h : LStep s a s') (ha : ∀ t, a ≠ .sent t) : s'.sent = s.sent := by
  cases h
  case sent t _ _ => exact absurd rfl (ha t)
  all_goals rfl

theorem lrun_eq_foldlM (s : LSt) (acts : List LAct) : lrun s acts = acts.foldlM lstep s :=
  eq_foldlM lstep lrun (fun _ => rfl) (fun s a _ => by rw [lrun]; cases lstep s a <;> rfl) s acts

theorem lrun_snoc {s s1 s' : LSt} {acts : List LAct} {a : LAct} (hr : lrun s acts = some s1) (hs : lstep s1 a = some s') :
    lrun s (acts ++ [a]) = some s' := by
  rw [lrun_eq_foldlM] at hr ⊢
  exact foldlM_append_some.2 ⟨s1, hr, foldlM_cons_some.2 ⟨s', hs, rfl⟩⟩

theorem lrun_induction {I : LSt → Prop} (hstep : ∀ {s a s'}, I s → LStep s a s' → I s')
    {acts : List LAct} {s s' : LSt} (h : I s) (hr : lrun s acts = some s') : I s' :=
  foldlM_induction (fun _ _ _ hi hs => hstep hi (.of_lstep hs)) h (lrun_eq_foldlM s acts ▸ hr)

end Cqos
