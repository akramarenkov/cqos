import Cqos.SimpleV1
/-
  The successful steps of the protocol machine of Cqos/SimpleV1.lean as a relation: one
  constructor per branch of `pstep` that returns `some`, carrying the branch's guard in the form
  in which `pstep` tests it.  Proofs about `pstep s a = some s'` go through `PStep.of_pstep` and
  `cases`, so the case analysis of `pstep` is done here once.
-/
namespace Cqos.SimpleV1

inductive PStep (s : PSt) : PAct → PSt → Prop
  | stop : PStep s .stop { s with stopReq := true }
  | cancel : PStep s .cancel { s with ctxDone := true, hctx := true }
  | graceful : PStep s .graceful { s with gracefulReq := true }
  | drain : PStep s .drain { s with drained := true }
  | selStop : s.pc = .select ∧ (s.stopReq ∨ s.ctxDone) →
      PStep s .selStop { s with pc := .deferStop, innerStop := true }
  | selErr : s.pc = .select ∧ s.innerDone → PStep s .selErr { s with pc := .deferStop, innerStop := true }
  | selGracefulSync : s.pc = .select ∧ s.gracefulReq → s.unfixed →
      PStep s .selGraceful { s with pc := .gracefulSync, innerGraceful := true }
  | selGraceful : s.pc = .select ∧ s.gracefulReq → ¬ s.unfixed →
      PStep s .selGraceful { s with pc := .inGraceful, innerGraceful := true, helper := .blocked }
  | gDone : s.pc = .inGraceful ∧ s.helper = .finished →
      PStep s .gDone { s with pc := .deferStop, innerStop := true }
  | gStop : s.pc = .inGraceful ∧ (s.stopReq ∨ s.ctxDone) →
      PStep s .gStop { s with pc := .stopInner, innerStop := true }
  | stoppedInner : s.innerDone → s.pc = .stopInner → PStep s .innerStopped { s with pc := .waitHelper }
  | stoppedDefer : s.innerDone → s.pc = .deferStop → PStep s .innerStopped { s with pc := .deferCancel }
  | stoppedSync : s.innerDone → s.pc = .gracefulSync →
      PStep s .innerStopped { s with pc := .deferStop, innerStop := true }
  | helperJoined : s.pc = .waitHelper ∧ s.helper = .finished →
      PStep s .helperJoined { s with pc := .deferStop, innerStop := true }
  | cancelHandlers : s.pc = .deferCancel → PStep s .cancelHandlers { s with pc := .deferWait, hctx := true }
  | handlersGone : s.pc = .deferWait ∧ s.handlers = 0 → PStep s .handlersGone { s with pc := .completed }
  | innerFinish : ¬ s.innerDone ∧ (s.innerStop ∨ (s.innerGraceful ∧ s.drained ∧ ¬ s.hctx)) →
      PStep s .innerFinish { s with innerDone := true }
  | helperReturn : s.helper = .blocked ∧ s.innerDone → PStep s .helperReturn { s with helper := .finished }
  | handlerExit : s.hctx ∧ 0 < s.handlers → PStep s .handlerExit { s with handlers := s.handlers - 1 }

theorem PStep.of_pstep {s s' : PSt} {a : PAct} (h : pstep s a = some s') : PStep s a s' := by
  revert h
  fun_cases pstep s a <;> intro h <;> cases h
  all_goals constructor <;> assumption

end Cqos.SimpleV1
