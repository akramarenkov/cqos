import Cqos.Divider
/-
  `sortDesc` (model of `common.SortPriorities`): a permutation of its argument, sorted from
  highest to lowest; strictly so when the argument has no duplicates.
-/
namespace Cqos

theorem insertDesc_perm (p : Nat) (l : List Nat) : (insertDesc p l).Perm (p :: l) := by
  induction l with
  | nil => simp [insertDesc]
  | cons x r ih =>
    simp only [insertDesc]
    split
    · exact List.Perm.refl _
    · exact (List.Perm.cons x ih).trans (List.Perm.swap p x r)

theorem sortDesc_perm (l : List Nat) : (sortDesc l).Perm l := by
  induction l with
  | nil => simp [sortDesc]
  | cons p r ih =>
    simp only [sortDesc, List.foldr_cons]
    exact (insertDesc_perm p _).trans (List.Perm.cons p ih)

theorem sortDesc_ne_nil (ps : List Nat) (h : ps ≠ []) : sortDesc ps ≠ [] := fun e =>
  h (e ▸ sortDesc_perm ps).symm.eq_nil

theorem mem_sortDesc (l : List Nat) (x : Nat) : x ∈ sortDesc l ↔ x ∈ l := (sortDesc_perm l).mem_iff

theorem insertDesc_sorted (p : Nat) (l : List Nat) (h : l.Pairwise (· ≥ ·)) : (insertDesc p l).Pairwise (· ≥ ·) := by
  induction l with
  | nil => simp [insertDesc]
  | cons x r ih =>
    have hx := List.pairwise_cons.1 h
    simp only [insertDesc]
    split
    · refine List.pairwise_cons.2 ⟨?_, h⟩
      intro y hy
      simp only [List.mem_cons] at hy
      rcases hy with rfl | hy
      · omega
      · have := hx.1 y hy; omega
    · refine List.pairwise_cons.2 ⟨?_, ih hx.2⟩
      intro y hy
      have := (insertDesc_perm p r).mem_iff.1 hy
      simp only [List.mem_cons] at this
      rcases this with rfl | hy'
      · omega
      · exact hx.1 y hy'

theorem sortDesc_sorted (l : List Nat) : (sortDesc l).Pairwise (· ≥ ·) := by
  induction l with
  | nil => simp [sortDesc]
  | cons p r ih => simp only [sortDesc, List.foldr_cons]; exact insertDesc_sorted p _ ih

theorem sortDesc_strict (l : List Nat) (hn : l.Nodup) : (sortDesc l).Pairwise (· > ·) :=
  ((sortDesc_sorted l).and ((sortDesc_perm l).nodup_iff.2 hn)).imp fun ⟨h1, h2⟩ => by omega

theorem nodup_of_strict (l : List Nat) (h : l.Pairwise (· > ·)) : l.Nodup := h.imp Nat.ne_of_gt

end Cqos
