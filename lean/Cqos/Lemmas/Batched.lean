/-
  Counting in windows, apart from any machine.  `Batched Q I starts sent`: a log `sent` of
  (element, time) pairs falls into consecutive batches of `Q`, batch `b` lying between
  `starts[b]` and `starts[b+1]` in time, and the starts are `I` apart.  Then two elements
  `n+1` batches apart are `n·I` apart in time (`Batched.gap`), so a window of length `W`
  touches at most `W/I + 2` batches (`Batched.window`).
-/
namespace Cqos

theorem getElem?_concat {α} {l : List α} {a v : α} {i : Nat} :
    (l ++ [a])[i]? = some v ↔ l[i]? = some v ∨ i = l.length ∧ a = v := by
  rcases Nat.lt_trichotomy i l.length with h | rfl | h
  · simp [List.getElem?_append_left h, Nat.ne_of_lt h]
  · simp
  · have : (l ++ [a])[i]? = none := List.getElem?_eq_none (by simp; omega)
    simp [this, List.getElem?_eq_none (Nat.le_of_lt h), Nat.ne_of_gt h]

theorem getElem_concat_cases {α} {l : List α} {a : α} {i : Nat} (hi : i < (l ++ [a]).length) :
    (∃ h : i < l.length, (l ++ [a])[i] = l[i]) ∨ i = l.length ∧ (l ++ [a])[i] = a := by
  by_cases hlt : i < l.length
  · exact .inl ⟨hlt, List.getElem_append_left hlt⟩
  · have : i = l.length :=
      Nat.le_antisymm (Nat.le_of_lt_succ (by rwa [List.length_append] at hi)) (Nat.le_of_not_lt hlt)
    subst this
    exact .inr ⟨rfl, List.getElem_concat_length rfl _⟩

theorem filter_length_le_of_span {α} (P : α → Bool) (M : Nat) (l : List α)
    (h : ∀ i j (hi : i < l.length) (hj : j < l.length), i ≤ j → P l[i] = true → P l[j] = true → j < i + M) :
    (l.filter P).length ≤ M := by
  induction l generalizing M with
  | nil => exact Nat.zero_le _
  | cons x xs ih =>
    by_cases hx : P x = true
    · -- every later hit `j` is within `M` of the head, so hits of the tail are within `M - 1`
      have hM := h 0 0 (Nat.zero_lt_succ _) (Nat.zero_lt_succ _) (Nat.le_refl _) hx hx
      have := ih (M - 1) fun i j hi hj hij _ hpj => by
        have := h 0 (j + 1) (Nat.zero_lt_succ _) (Nat.succ_lt_succ hj) (Nat.zero_le _) hx hpj
        omega
      rw [List.filter_cons_of_pos hx, List.length_cons]; omega
    · rw [List.filter_cons_of_neg hx]
      exact ih M fun i j hi hj hij hpi hpj => by
        have := h (i + 1) (j + 1) (Nat.succ_lt_succ hi) (Nat.succ_lt_succ hj) (Nat.succ_le_succ hij) hpi hpj
        omega

theorem filter_length_le_of_index {α} (P : α → Bool) (M : Nat) (l : List α)
    (h : ∀ i (hi : i < l.length), P l[i] = true → i < M) : (l.filter P).length ≤ M :=
  filter_length_le_of_span P M l fun _ j _ hj _ _ hpj => Nat.lt_of_lt_of_le (h j hj hpj) (Nat.le_add_left ..)

/-- the count behind `Batched.window`: element `j` lies at most `n+1` batches of `Q` after element
    `i`, and `n` batches take `W` -/
theorem window_arith {Q I W i j n : Nat} (hQ : 0 < Q) (hI : 0 < I) (hb : j / Q ≤ i / Q + 1 + n) (hn : n * I ≤ W) :
    j < i + Q * (W / I + 2) := by
  have hn' := (Nat.le_div_iff_mul_le hI).2 hn
  calc
    j + 1 ≤ Q * (j / Q + 1) := Nat.lt_mul_div_succ j hQ
    _ ≤ Q * (i / Q + (n + 2)) := Nat.mul_le_mul_left Q (by omega)
    _ = Q * (i / Q) + Q * (n + 2) := Nat.mul_add ..
    _ ≤ i + Q * (W / I + 2) := Nat.add_le_add (Nat.mul_div_le i Q) (Nat.mul_le_mul_left Q (by omega))

/-- with `∃`, so that a caller does not write `l[i]`, whose bound the elaborator would search for at length -/
theorem getElem?_of_lt {α} {l : List α} {i : Nat} (h : i < l.length) : ∃ v, l[i]? = some v :=
  ⟨_, List.getElem?_eq_getElem h⟩

structure Batched (Q I : Nat) (starts : List Nat) (sent : List (Nat × Nat)) : Prop where
  lower : ∀ i e, sent[i]? = some e → ∃ v, starts[i / Q]? = some v ∧ v ≤ e.2
  upper : ∀ i e v, sent[i]? = some e → starts[i / Q + 1]? = some v → e.2 ≤ v
  spaced : ∀ b v w, starts[b]? = some v → starts[b + 1]? = some w → v + I ≤ w

namespace Batched
variable {Q I : Nat} {starts : List Nat} {sent : List (Nat × Nat)}

theorem nil : Batched Q I [] [] := ⟨nofun, nofun, nofun⟩

/-- `hl`: the last start is at least `I` before `t` -/
theorem start {t : Nat} (h : Batched Q I starts sent) (hs : ∀ e ∈ sent, e.2 ≤ t)
    (hl : ∀ b v, b + 1 = starts.length → starts[b]? = some v → v + I ≤ t) : Batched Q I (starts ++ [t]) sent where
  lower i e he := let ⟨v, hv, hle⟩ := h.lower i e he; ⟨v, getElem?_concat.2 (.inl hv), hle⟩
  upper i e v he hv := by
    rcases getElem?_concat.1 hv with hv | ⟨_, rfl⟩
    · exact h.upper i e v he hv
    · exact hs e (List.mem_of_getElem? he)
  spaced b v w hv hw := by
    have hb := (List.getElem?_eq_some_iff.1 hv).1
    rcases getElem?_concat.1 hw with hw | ⟨hb1, rfl⟩
    · have := (List.getElem?_eq_some_iff.1 hw).1
      exact h.spaced b v w (by rwa [List.getElem?_append_left (by omega)] at hv) hw
    · exact hl b v hb1 (by rwa [List.getElem?_append_left (by omega)] at hv)

/-- the new element falls into the last batch started (`hn`, `hb`), which started at `v ≤ t` -/
theorem send {x t n v : Nat} (h : Batched Q I starts sent) (hn : sent.length / Q = n)
    (hb : starts.length = n + 1) (hv : starts[n]? = some v) (hle : v ≤ t) : Batched Q I starts (sent ++ [(x, t)]) where
  lower i e he := by
    rcases getElem?_concat.1 he with he | ⟨rfl, rfl⟩
    · exact h.lower i e he
    · exact ⟨v, hn ▸ hv, hle⟩
  upper i e w he hw := by
    rcases getElem?_concat.1 he with he | ⟨rfl, rfl⟩
    · exact h.upper i e w he hw
    · have := (List.getElem?_eq_some_iff.1 hw).1; omega
  spaced := h.spaced

theorem spaced_iter (h : Batched Q I starts sent) {b v w : Nat} (n : Nat)
    (hv : starts[b]? = some v) (hw : starts[b + n]? = some w) : v + n * I ≤ w := by
  induction n generalizing w with
  | zero => cases hv.symm.trans hw; omega
  | succ n ih =>
    have hlt := (List.getElem?_eq_some_iff.1 hw).1
    obtain ⟨u, hm⟩ := getElem?_of_lt (Nat.lt_of_succ_lt hlt)
    have := ih hm
    have := h.spaced (b + n) u w hm hw
    rw [Nat.succ_mul]; omega

theorem gap (h : Batched Q I starts sent) {i j n : Nat} {ei ej : Nat × Nat} (hi : sent[i]? = some ei)
    (hj : sent[j]? = some ej) (hn : i / Q + 1 + n = j / Q) : ei.2 + n * I ≤ ej.2 := by
  obtain ⟨vj, hvj, hlej⟩ := h.lower j ej hj
  have hlt := (List.getElem?_eq_some_iff.1 hvj).1
  obtain ⟨u, hm⟩ := getElem?_of_lt (i := i / Q + 1) (Nat.lt_of_le_of_lt (hn ▸ Nat.le_add_right ..) hlt)
  exact Nat.le_trans (Nat.add_le_add_right (h.upper i ei u hi hm) _)
    (Nat.le_trans (h.spaced_iter n hm (hn ▸ hvj)) hlej)

theorem item_ge (h : Batched Q I starts sent) {t0 i : Nat} {e : Nat × Nat} (h0 : ∀ v ∈ starts, t0 ≤ v)
    (hi : sent[i]? = some e) : t0 + i / Q * I ≤ e.2 := by
  obtain ⟨v, hv, hle⟩ := h.lower i e hi
  have hlt := (List.getElem?_eq_some_iff.1 hv).1
  obtain ⟨u, hm⟩ := getElem?_of_lt (Nat.zero_lt_of_lt hlt)
  exact Nat.le_trans (Nat.add_le_add_right (h0 u (List.mem_of_getElem? hm)) _)
    (Nat.le_trans (h.spaced_iter (b := 0) (i / Q) hm (by rwa [Nat.zero_add])) hle)

theorem window (h : Batched Q I starts sent) (hQ : 0 < Q) (hI : 0 < I) {i j W : Nat} {ei ej : Nat × Nat}
    (hi : sent[i]? = some ei) (hj : sent[j]? = some ej) (hW : ej.2 ≤ ei.2 + W) : j < i + Q * (W / I + 2) := by
  rcases Nat.lt_or_ge (i / Q + 1) (j / Q) with hfar | hnear
  · obtain ⟨n, hn⟩ := Nat.exists_eq_add_of_lt hfar
    have := h.gap (n := n + 1) hi hj hn.symm
    exact window_arith (n := n + 1) hQ hI (Nat.le_of_eq hn) (by omega)
  · exact window_arith (n := 0) hQ hI hnear (by omega)

theorem window_count_delayed (h : Batched Q I starts sent) (hQ : 0 < Q) (hI : 0 < I) {got : List (Nat × Nat)} {δ : Nat}
    (hd : ∀ i (hi : i < got.length), ∃ e, sent[i]? = some e ∧ e.2 ≤ (got[i]).2 ∧ (got[i]).2 ≤ e.2 + δ) (a W : Nat) :
    (got.filter (fun e => decide (a ≤ e.2 ∧ e.2 ≤ a + W))).length ≤ Q * ((W + δ) / I + 2) := by
  apply filter_length_le_of_span
  intro i j hi hj hij hpi hpj
  simp only [decide_eq_true_eq] at hpi hpj
  obtain ⟨ei, hei, _, hi2⟩ := hd i hi
  obtain ⟨ej, hej, hj1, _⟩ := hd j hj
  refine h.window hQ hI hei hej ?_
  calc ej.2 ≤ a + W := Nat.le_trans hj1 hpj.2
    _ ≤ ei.2 + δ + W := Nat.add_le_add_right (Nat.le_trans hpi.1 hi2) W
    _ = ei.2 + (W + δ) := by rw [Nat.add_assoc, Nat.add_comm δ]

theorem cumulative (h : Batched Q I starts sent) (hQ : 0 < Q) (hI : 0 < I) {t0 : Nat} (h0 : ∀ v ∈ starts, t0 ≤ v)
    (T : Nat) : (sent.filter (fun e => decide (e.2 ≤ T))).length ≤ Q * ((T - t0) / I + 1) := by
  apply filter_length_le_of_index
  intro i hi hp
  have := h.item_ge h0 (List.getElem?_eq_getElem hi)
  have hb : i / Q ≤ (T - t0) / I := (Nat.le_div_iff_mul_le hI).2 (by simp only [decide_eq_true_eq] at hp; omega)
  exact Nat.lt_of_lt_of_le (Nat.lt_mul_div_succ i hQ) (Nat.mul_le_mul_left Q (Nat.succ_le_succ hb))

end Batched
end Cqos
