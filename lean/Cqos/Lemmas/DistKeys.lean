import Cqos.Lemmas.AssocList
/-
  Key-uniqueness of `Dist`.  `Dist.set` / `Dist.erase` are `alSet` / `alErase` at value type `Nat`
  and `Dist.get` is `alGet` with default 0, so what concerns keys comes from `Lemmas/AssocList`;
  `Dist.add` is a `set` (`Dist.add_eq_set`).
-/
namespace Cqos
namespace Dist

def NodupKeys (m : Dist) : Prop := (m.map (·.1)).Nodup

theorem nodupKeys_nil : NodupKeys [] := List.nodup_nil

theorem set_eq_alSet (m : Dist) (k v : Nat) : set m k v = alSet m k v := by
  fun_induction set m k v <;> simp_all [alSet]

theorem erase_eq_alErase (m : Dist) (k : Nat) : erase m k = alErase m k := by
  fun_induction erase m k <;> simp_all [alErase]

theorem get_eq_alGet (m : Dist) (k : Nat) : get m k = (alGet m k).getD 0 := by
  fun_induction get m k <;> simp_all [alGet]

theorem nodupKeys_set (m : Dist) (k v : Nat) (h : NodupKeys m) : NodupKeys (set m k v) :=
  set_eq_alSet m k v ▸ nodup_alSet m k v h

theorem nodupKeys_add (m : Dist) (k v : Nat) (h : NodupKeys m) : NodupKeys (add m k v) :=
  add_eq_set m k v ▸ nodupKeys_set m k _ h

theorem nodupKeys_erase (m : Dist) (k : Nat) (h : m.NodupKeys) : (m.erase k).NodupKeys :=
  erase_eq_alErase m k ▸ nodup_alErase m k h

theorem nodupKeys_zeroAll (m : Dist) (h : m.NodupKeys) : m.zeroAll.NodupKeys := by
  rw [NodupKeys, keys_zeroAll]; exact h

theorem get_eq_zero_of_not_mem (m : Dist) (k : Nat) (h : k ∉ m.map (·.1)) : get m k = 0 := by
  induction m with
  | nil => rfl
  | cons e r ih =>
    simp only [List.map_cons, List.mem_cons, not_or] at h
    simp only [get, if_neg (Ne.symm h.1), ih h.2]

theorem total_zero_of_get_zero (m : Dist) (hn : m.NodupKeys) (h : ∀ k, m.get k = 0) : m.total = 0 := by
  induction m with
  | nil => rfl
  | cons e r ih =>
    obtain ⟨k0, v0⟩ := e
    simp only [NodupKeys, List.map_cons, List.nodup_cons] at hn
    have hv : v0 = 0 := by have := h k0; simpa [get] using this
    have hr : ∀ k, get r k = 0 := by
      intro k
      by_cases hk : k0 = k
      · subst hk; exact get_eq_zero_of_not_mem _ _ hn.1
      · have := h k; simpa [get, hk] using this
    simp [total, hv, ih hn.2 hr]

theorem exists_get_ne_zero (m : Dist) (hnd : m.NodupKeys) (h : 0 < m.total) : ∃ k, m.get k ≠ 0 :=
  Classical.byContradiction fun hne => Nat.ne_of_gt h
    (total_zero_of_get_zero m hnd fun k => Classical.byContradiction fun hk => hne ⟨k, hk⟩)

theorem get_erase (m : Dist) (k q : Nat) (h : m.NodupKeys) :
    (m.erase k).get q = if k = q then 0 else m.get q := by
  rw [get_eq_alGet, erase_eq_alErase, alGet_alErase m k q h, get_eq_alGet]; split <;> rfl

end Dist

theorem total_erase_le (m : Dist) (k : Nat) : (m.erase k).total ≤ m.total := by
  have := Dist.total_erase m k; omega

end Cqos
