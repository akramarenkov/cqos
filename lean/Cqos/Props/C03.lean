import Cqos.Lemmas.JoinStep
/-
  Property C03 — join/unite: the output slices concatenate to exactly the input stream;
  no empty slice; size rules.

  `jstep` (Cqos/Join.lean) is the machine of v2 join, v2 unite and v1 join; the theorems
  quantify over every action list: every input sequence (unite: every sequence of slice
  lengths incl. empty and oversize), every JoinSize ≥ 1, copy and no-copy mode, every
  placement of ticker firings (= every timeout value and timing), every release timing.
-/
namespace Cqos.C03

/-- the part of the buffer that has been accepted but not yet emitted -/
def live (s : JSt) : List Nat :=
  match s.pc with
  | .await _ => []            -- no-copy: the buffer (if any) is the slice just emitted
  | .done => if s.closing ∨ s.unreleased then [] else s.buf
  | .run => s.buf

/-- the invariant, with `pending` = an input slice already logged as consumed but not yet
    buffered or forwarded (empty between `process` calls) -/
structure JInvP (s : JSt) (pending : List Nat) : Prop where
  concat : s.out.flatten ++ live s ++ pending = s.consumed.flatten
  nonempty : ∀ o ∈ s.out, o ≠ []
  small : s.pc = .run → s.buf.length < s.cfg.size
  le : s.buf.length ≤ s.cfg.size
  joinLe : s.cfg.kind = .join → ∀ o ∈ s.out, o.length ≤ s.cfg.size
  uniteBig : s.cfg.kind = .unite → ∀ o ∈ s.out, s.cfg.size < o.length → o ∈ s.consumed
  awaitNC : ∀ n, s.pc = .await n → s.cfg.noCopy = true
  awaitSome : ∀ id xs, s.pc = .await (some (id, xs)) → s.cfg.kind = .unite
  sizePos : 0 < s.cfg.size
  pendIn : pending = [] ∨ pending ∈ s.consumed
  closingPc : s.closing = true → s.pc ≠ .run ∧ ∀ i xs, s.pc ≠ .await (some (i, xs))
  unrel : s.unreleased = true → s.pc = .done

abbrev JInv (s : JSt) : Prop := JInvP s []

theorem closing_false_of_run {s : JSt} {p : List Nat} (h : JInvP s p) (hrun : s.pc = .run) : s.closing = false :=
  Bool.eq_false_iff.2 fun hc => (h.closingPc hc).1 hrun

theorem closing_false_of_some {s : JSt} {p : List Nat} (h : JInvP s p) {i : Nat} {xs : List Nat}
    (hpc : s.pc = .await (some (i, xs))) : s.closing = false :=
  Bool.eq_false_iff.2 fun hc => (h.closingPc hc).2 i xs hpc

theorem unreleased_false {s : JSt} {p : List Nat} (h : JInvP s p) {pc : JPc} (hpc : s.pc = pc) (hnd : pc ≠ .done) :
    s.unreleased = false :=
  Bool.eq_false_iff.2 fun hu => hnd (hpc ▸ h.unrel hu)

theorem JInvP.same {s u : JSt} {p : List Nat} (h : JInvP s p) (ho : u.out = s.out) (hb : u.buf = s.buf)
    (hp : u.pc = s.pc) (hc : u.consumed = s.consumed) (hcfg : u.cfg = s.cfg) (hcl : u.closing = s.closing)
    (hu : u.unreleased = s.unreleased) : JInvP u p := by
  have hl : live u = live s := by simp [live, hp, hb, hcl, hu]
  exact ⟨by rw [ho, hl, hc]; exact h.concat, by rw [ho]; exact h.nonempty, by rw [hp, hb, hcfg]; exact h.small,
    by rw [hb, hcfg]; exact h.le, by rw [hcfg, ho]; exact h.joinLe, by rw [hcfg, ho, hc]; exact h.uniteBig,
    by rw [hp, hcfg]; exact h.awaitNC, by rw [hp, hcfg]; exact h.awaitSome, by rw [hcfg]; exact h.sizePos,
    by rw [hc]; exact h.pendIn, by rw [hcl, hp]; exact h.closingPc, by rw [hu, hp]; exact h.unrel⟩

theorem JInvP.done {s u : JSt} {p : List Nat} (h : JInvP s p) (hp : u.pc = .done) (ho : u.out = s.out)
    (hc : u.consumed = s.consumed) (hcfg : u.cfg = s.cfg) (hl : live u = live s) (hb : u.buf.length ≤ s.cfg.size) :
    JInvP u p :=
  ⟨by rw [ho, hl, hc]; exact h.concat, by rw [ho]; exact h.nonempty, fun hr => (by rw [hp] at hr; cases hr),
    by rw [hcfg]; exact hb, by rw [hcfg, ho]; exact h.joinLe, by rw [hcfg, ho, hc]; exact h.uniteBig,
    fun n hn => (by rw [hp] at hn; cases hn), fun i xs hn => (by rw [hp] at hn; cases hn),
    by rw [hcfg]; exact h.sizePos, by rw [hc]; exact h.pendIn, fun _ => by rw [hp]; simp, fun _ => hp⟩

/-- A slice `o` is emitted from a running state: it takes what was live and what was pending
    except `p'`, and afterwards nothing is live.  Every emission of the machine is an instance:
    `pass()`, the pass after an append, `forward`, each in copy and in no-copy mode. -/
theorem JInvP.emit {s u : JSt} {p p' o : List Nat} (h : JInvP s p) (hrun : s.pc = .run)
    (ho : u.out = s.out ++ [o]) (hsplit : s.buf ++ p = o ++ p') (hne : o ≠ [])
    (hlen : o.length ≤ s.cfg.size ∨ s.cfg.kind = .unite ∧ o ∈ s.consumed)
    (hp' : p' = [] ∨ p' ∈ s.consumed) (hc : u.consumed = s.consumed) (hf : Frame s u)
    (hpc : u.pc = .run ∧ u.buf = [] ∨
      ∃ nx, u.pc = .await nx ∧ s.cfg.noCopy = true ∧ u.buf.length ≤ s.cfg.size ∧
        ∀ i ys, nx = some (i, ys) → s.cfg.kind = .unite) : JInvP u p' := by
  have hcat := h.concat
  simp only [live, hrun] at hcat
  have hlive : live u = [] := by
    rcases hpc with ⟨hr, hb⟩ | ⟨nx, hn, _⟩
    · simp [live, hr, hb]
    · simp [live, hn]
  refine ⟨?_, ?_, ?_, ?_, ?_, ?_, ?_, ?_, by rw [hf.cfg]; exact h.sizePos, by rw [hc]; exact hp', ?_, ?_⟩
  · rw [ho, hlive, hc, ← hcat, List.append_assoc s.out.flatten, hsplit]; simp
  · rw [ho]; exact List.forall_mem_append.2 ⟨h.nonempty, List.forall_mem_singleton.2 hne⟩
  · intro hr
    rcases hpc with ⟨_, hb⟩ | ⟨nx, hn, _⟩
    · rw [hb, hf.cfg]; exact h.sizePos
    · rw [hn] at hr; cases hr
  · rw [hf.cfg]
    rcases hpc with ⟨_, hb⟩ | ⟨nx, _, _, hle, _⟩
    · rw [hb]; exact Nat.zero_le _
    · exact hle
  · rw [hf.cfg, ho]
    intro hk
    refine List.forall_mem_append.2 ⟨h.joinLe hk, List.forall_mem_singleton.2 ?_⟩
    rcases hlen with hl | ⟨hu, _⟩
    · exact hl
    · rw [hk] at hu; cases hu
  · rw [hf.cfg, ho, hc]
    intro hk
    refine List.forall_mem_append.2 ⟨h.uniteBig hk, List.forall_mem_singleton.2 fun hlt => ?_⟩
    rcases hlen with hl | ⟨_, hin⟩
    · omega
    · exact hin
  · intro n hn
    rcases hpc with ⟨hr, _⟩ | ⟨nx, _, hnc, _⟩
    · rw [hr] at hn; cases hn
    · rw [hf.cfg]; exact hnc
  · intro i ys hn
    rcases hpc with ⟨hr, _⟩ | ⟨nx, hnx, _, _, hk⟩
    · rw [hr] at hn; cases hn
    · rw [hf.cfg]; exact hk i ys (by rw [hnx] at hn; cases hn; rfl)
  · intro hcl; rw [hf.closing, closing_false_of_run h hrun] at hcl; cases hcl
  · intro hu; rw [hf.unreleased, unreleased_false h hrun nofun] at hu; cases hu

theorem jpass_inv {s : JSt} {p : List Nat} (h : JInvP s p) (hrun : s.pc = .run) (t : Nat) (tk : Bool)
    (nx : Option (Nat × List Nat)) (hnx : ∀ i ys, nx = some (i, ys) → s.cfg.kind = .unite) :
    JInvP (jpass s t tk nx) p := by
  by_cases hb : s.buf = []
  · rw [jpass_empty_eq s t tk nx hb]; exact h.same rfl rfl rfl rfl rfl rfl rfl
  · have hf := jpass_frame s t tk nx
    cases hc : s.cfg.noCopy with
    | true =>
      rw [jpass_nocopy_eq s t tk nx hb hc] at hf ⊢
      exact h.emit hrun rfl rfl hb (Or.inl h.le) h.pendIn rfl hf (Or.inr ⟨nx, rfl, hc, h.le, hnx⟩)
    | false =>
      rw [jpass_copy_eq s t tk nx hb hc] at hf ⊢
      exact h.emit hrun rfl rfl hb (Or.inl h.le) h.pendIn rfl hf (Or.inl ⟨hrun, rfl⟩)

theorem live_jpass {s : JSt} (hrun : s.pc = .run) (t : Nat) (tk : Bool) (nx : Option (Nat × List Nat)) :
    live (jpass s t tk nx) = [] := by
  by_cases hb : s.buf = []
  · rw [jpass_empty_eq s t tk nx hb]; simp [live, hrun, hb]
  · cases hc : s.cfg.noCopy with
    | false => rw [jpass_copy_eq s t tk nx hb hc]; simp [live, hrun]
    | true => rw [jpass_nocopy_eq s t tk nx hb hc]; simp [live]

theorem live_jrelease (s : JSt) (t : Nat) : live (jrelease s t) = [] := by
  by_cases hc : s.closing = true <;> simp [jrelease, live, hc]

theorem jappendPath_inv {s : JSt} {xs : List Nat} (h : JInvP s xs) (hrun : s.pc = .run)
    (hfit : s.buf.length + xs.length ≤ s.cfg.size) (t : Nat) : JInv (jappendPath s xs t) := by
  rw [jappendPath_eq]
  split
  · rename_i hlt
    have hcat := h.concat
    simp only [live, hrun] at hcat
    exact ⟨by simp [jappend, live, hrun, ← hcat], h.nonempty, fun _ => by simpa [jappend] using hlt,
      by simp only [jappend, List.length_append]; omega, h.joinLe, h.uniteBig, h.awaitNC, h.awaitSome, h.sizePos,
      Or.inl rfl, h.closingPc, h.unrel⟩
  · have hne : (jappend s xs t).buf ≠ [] := by
      intro e
      have : s.buf.length + xs.length = 0 := by simpa [jappend] using congrArg List.length e
      have := h.sizePos; omega
    have hf := (jappend_frame s xs t).trans (jpass_frame (jappend s xs t) t false none)
    have hle : (s.buf ++ xs).length ≤ s.cfg.size := by simpa using hfit
    cases hc : s.cfg.noCopy with
    | true =>
      rw [jpass_nocopy_eq _ t false none hne hc] at hf ⊢
      exact h.emit hrun rfl (by simp [jappend]) hne (Or.inl hle) (Or.inl rfl) rfl hf
        (Or.inr ⟨none, rfl, hc, hle, fun _ _ hn => by cases hn⟩)
    | false =>
      rw [jpass_copy_eq _ t false none hne hc] at hf ⊢
      exact h.emit hrun rfl (by simp [jappend]) hne (Or.inl hle) (Or.inl rfl) rfl hf (Or.inl ⟨hrun, rfl⟩)

theorem jlog_inv {s : JSt} (h : JInv s) (xs : List Nat) : JInvP (jlog s xs) xs := by
  have hcat := h.concat
  simp only [List.append_nil] at hcat
  have hl : live (jlog s xs) = live s := rfl
  exact ⟨by rw [hl]; simp [jlog, ← hcat], h.nonempty, h.small, h.le, h.joinLe,
    fun hu o ho hlt => by simp [jlog, h.uniteBig hu o ho hlt], h.awaitNC, h.awaitSome, h.sizePos,
    Or.inr (by simp [jlog]), h.closingPc, h.unrel⟩

theorem jcont_inv {s : JSt} {xs : List Nat} (h : JInv s) (hrun : s.pc = .run) (hk : s.cfg.kind = .unite)
    (hfit : Fits s xs) (id t : Nat) : JInv (jcont (jlog s xs) id xs t) := by
  have hl := jlog_inv h xs
  by_cases hbig : s.cfg.size ≤ xs.length
  · have hb : s.buf = [] := hfit.1 hbig
    have hne : xs ≠ [] := by intro e; rw [e] at hbig; have := h.sizePos; simp at hbig; omega
    have hin : xs ∈ (jlog s xs).consumed := by simp [jlog]
    cases hc : s.cfg.noCopy with
    | true =>
      rw [jtake_big_nocopy id t hbig hc]
      exact hl.emit hrun rfl (by simp [jlog, hb]) hne (Or.inr ⟨hk, hin⟩) (Or.inl rfl) rfl ⟨rfl, rfl, rfl, rfl⟩
        (Or.inr ⟨none, rfl, hc, h.le, fun _ _ hn => by cases hn⟩)
    | false =>
      rw [jtake_big_copy id t hbig hc]
      exact hl.emit hrun rfl (by simp [jlog, hb]) hne (Or.inr ⟨hk, hin⟩) (Or.inl rfl) rfl ⟨rfl, rfl, rfl, rfl⟩
        (Or.inl ⟨hrun, hb⟩)
  · rw [jtake_small id t (Nat.not_le.1 hbig)]
    exact jappendPath_inv hl hrun (hfit.2 (Nat.not_le.1 hbig)) t

theorem jrelease_inv {s : JSt} (h : JInv s) {nx : Option (Nat × List Nat)} (hpc : s.pc = .await nx) (t : Nat) :
    JInv (jrelease s t) := by
  have hcat := h.concat
  simp only [live, hpc, List.append_nil] at hcat
  refine ⟨?_, h.nonempty, fun _ => h.sizePos, Nat.zero_le _, h.joinLe, h.uniteBig, ?_, ?_, h.sizePos, Or.inl rfl,
    ?_, fun hu => absurd (h.unrel hu) (by rw [hpc]; simp)⟩
  · by_cases hc : s.closing = true <;> simp [jrelease, live, hc, hcat]
  · exact fun n hn => absurd hn (jrelease_pc_ne_await s t n)
  · exact fun i xs hn => absurd hn (jrelease_pc_ne_await s t _)
  · intro hc
    rw [jrelease_pc_done (s := s) t hc]
    exact ⟨nofun, nofun⟩

/-- **One step keeps `JInv`**: output and live buffer concatenate to the accepted input, no slice
    is empty, the size rules hold. -/
theorem jstep_inv (s s' : JSt) (a : JAct) (h : JInv s) (hs : JStep s a s') : JInv s' := by
  cases hs with
  | skip | idle => exact h
  | join hpc _ hx => exact jappendPath_inv (jlog_inv h _) hpc (by have := h.small hpc; simp [jlog]; omega) _
  | hold hpc hk => exact jpass_inv h hpc _ _ _ fun _ _ _ => hk
  | tick hpc => exact jpass_inv h hpc _ _ _ fun _ _ hn => by cases hn
  | @flush _ xs t hpc hk _ hb hc =>
    have e := jpass_copy_eq s t false none hb hc
    have h1 := jpass_inv h hpc t false none fun _ _ hn => by cases hn
    rw [e] at h1 ⊢
    exact jcont_inv h1 hpc hk (Fits.of_nil rfl xs) _ _
  | take hpc hk hf => exact jcont_inv h hpc hk hf _ _
  | @closeHold t hpc hb hc =>
    have h1 := jpass_inv h hpc t false none fun _ _ hn => by cases hn
    rw [jpass_nocopy_eq s t false none hb hc] at h1 ⊢
    exact ⟨h1.concat, h1.nonempty, fun hr => (by cases hr), h1.le, h1.joinLe, h1.uniteBig, h1.awaitNC, h1.awaitSome,
      h1.sizePos, Or.inl rfl, fun _ => ⟨by simp, fun _ _ hn => by cases hn⟩, h1.unrel⟩
  | @closeDone t hpc =>
    have h1 := jpass_inv h hpc t false none fun _ _ hn => by cases hn
    exact h1.done rfl rfl rfl rfl (by rw [live_jpass hpc]; simp [live]) h1.le
  | release hpc => exact jrelease_inv h hpc _
  | @resume _ xs t hpc =>
    exact jcont_inv (jrelease_inv h hpc t) (jrelease_pc_run t (closing_false_of_some h hpc)) (h.awaitSome _ _ hpc)
      (Fits.of_nil rfl xs) _ _
  | stop => exact h.same rfl rfl rfl rfl rfl rfl rfl
  | stopRun hpc =>
    refine h.done rfl rfl rfl rfl ?_ h.le
    simp [live, hpc, closing_false_of_run h hpc, unreleased_false h hpc nofun]
  | stopAwait hpc => exact h.done rfl rfl rfl rfl (by simp [live, hpc]) h.le
  | @stopFlush t hpc =>
    have h1 := jpass_inv h hpc t false none fun _ _ hn => by cases hn
    exact h1.done rfl rfl rfl rfl (by rw [live_jpass hpc]; simp [live]) (Nat.zero_le _)

theorem jinit_inv (cfg : JCfg) (t0 : Nat) (h : 0 < cfg.size) : JInv (jinit cfg t0) :=
  ⟨rfl, fun _ ho => (nomatch ho), fun _ => h, Nat.zero_le _, fun _ _ ho => (nomatch ho), fun _ _ ho => (nomatch ho),
    fun _ hn => (nomatch hn), fun _ _ hn => (nomatch hn), h, Or.inl rfl, fun hc => (nomatch hc),
    fun hu => (nomatch hu)⟩

theorem jrun_inv (acts : List JAct) (s s' : JSt) (h : JInv s) (hr : jrun s acts = some s') :
    JInv s' ∧ s'.cfg = s.cfg :=
  jrun_induction (I := fun u => JInv u ∧ u.cfg = s.cfg)
    (fun hu hs => ⟨jstep_inv _ _ _ hu.1 hs, hs.cfg_eq.trans hu.2⟩) ⟨h, rfl⟩ hr

/-- **C03 (concatenation).**  When the discipline has terminated after its input was
    closed, the concatenation of all output slices is exactly the sequence of accepted
    elements (unite: the concatenation of the accepted input slices): no loss, duplication or
    reordering — for every action list. -/
theorem c03_concat (cfg : JCfg) (t0 : Nat) (hsz : 0 < cfg.size) (acts : List JAct) (s : JSt)
    (hr : jrun (jinit cfg t0) acts = some s) (hdone : s.pc = .done) (hclosed : s.closing = true) :
    s.out.flatten = s.consumed.flatten := by
  have h := (jrun_inv acts _ s (jinit_inv cfg t0 hsz) hr).1.concat
  simpa [live, hdone, hclosed] using h

/-- **C03 (at any moment the output is a prefix of the input)** — also under v1 Stop. -/
theorem c03_prefix (cfg : JCfg) (t0 : Nat) (hsz : 0 < cfg.size) (acts : List JAct) (s : JSt)
    (hr : jrun (jinit cfg t0) acts = some s) :
    ∃ rest, s.out.flatten ++ rest = s.consumed.flatten := by
  have h := (jrun_inv acts _ s (jinit_inv cfg t0 hsz) hr).1.concat
  exact ⟨live s, by simpa using h⟩

/-- **C03 (no empty slice).** -/
theorem c03_nonempty (cfg : JCfg) (t0 : Nat) (hsz : 0 < cfg.size) (acts : List JAct) (s : JSt)
    (hr : jrun (jinit cfg t0) acts = some s) : ∀ o ∈ s.out, o ≠ [] :=
  (jrun_inv acts _ s (jinit_inv cfg t0 hsz) hr).1.nonempty

/-- **C03 (join: a slice never has more than JoinSize elements).** -/
theorem c03_join_le (cfg : JCfg) (t0 : Nat) (hsz : 0 < cfg.size) (hk : cfg.kind = .join) (acts : List JAct) (s : JSt)
    (hr : jrun (jinit cfg t0) acts = some s) : ∀ o ∈ s.out, o.length ≤ cfg.size := by
  obtain ⟨h, hc⟩ := jrun_inv acts _ s (jinit_inv cfg t0 hsz) hr
  have hc' : s.cfg = cfg := by rw [hc]; rfl
  have := h.joinLe (by rw [hc']; exact hk)
  rw [hc'] at this; exact this

/-- **C03 (unite: a slice exceeds JoinSize only if it is exactly one input slice, itself at
    least JoinSize long).** -/
theorem c03_unite_big (cfg : JCfg) (t0 : Nat) (hsz : 0 < cfg.size) (hk : cfg.kind = .unite) (acts : List JAct)
    (s : JSt) (hr : jrun (jinit cfg t0) acts = some s) :
    ∀ o ∈ s.out, cfg.size < o.length → o ∈ s.consumed ∧ cfg.size ≤ o.length := by
  obtain ⟨h, hc⟩ := jrun_inv acts _ s (jinit_inv cfg t0 hsz) hr
  have hc' : s.cfg = cfg := by rw [hc]; rfl
  intro o ho hlt
  have := h.uniteBig (by rw [hc']; exact hk) o ho (by rw [hc']; exact hlt)
  exact ⟨this, Nat.le_of_lt hlt⟩

/-! Non-vacuity: a unite run with an oversize slice, a timeout firing and a close. -/
example :
    (jrun (jinit ⟨.unite, 3, 100, false, false⟩ 0)
      [.item 1 [1, 2] 1, .item 2 [3, 4] 2, .item 3 [5, 6, 7, 8] 3, .item 4 [9] 4, .tick 200, .item 5 [] 5, .close 6]).map
      (fun s => (s.out, s.consumed.flatten, s.pc)) =
    some ([[1, 2], [3, 4], [5, 6, 7, 8], [9]], [1, 2, 3, 4, 5, 6, 7, 8, 9], .done) := by decide +kernel

end Cqos.C03
