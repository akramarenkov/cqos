import Cqos.Lemmas.Incs
/-
  Property C14 — dividers conserve the dividend and respect priority order.

  `fair`, `rateWith part` are the models of `divider.Fair` / `divider.Rate` (v1:
  `FairDivider` / `RateDivider`); `rate = rateWith floatPart`.  Everything about Rate is
  proved for an ARBITRARY rounding function `part`, so conservation and the frame
  property do not depend on floating point at all; monotonicity needs `part` to be
  antitone along the list, which for the IEEE computation is a fact about doubles that
  the kernel cannot evaluate (`Float` is opaque) — it is evaluated by the driver on
  every call it executes (`float-hypothesis-fails` would show up as a disagreement); the
  same holds for the `n/2` clause (`c14_rate_near`), whose hypothesis is `Near`/`nearHalf`.
-/
namespace Cqos.C14

/-- **C14 (Fair conserves the dividend).** -/
theorem c14_fair_total (ps : List Nat) (d : Nat) (m : Dist) (h : ps ≠ []) :
    (fair ps d m).total = m.total + d := by
  rw [conserves_fair, if_neg h]

/-- **C14 (Fair changes nothing else).** -/
theorem c14_fair_frame (ps : List Nat) (d : Nat) (m : Dist) (k : Nat) (hk : k ∉ ps) :
    (fair ps d m).get k = m.get k :=
  (fair_adds ps d m).frame hk

/-- **C14 (Fair's shape).** The j-th listed priority receives `⌊d/n⌋`, plus one for the
    first `d mod n` of them — increments differ by at most one, extras go to the highest. -/
theorem c14_fair_shape (ps : List Nat) (d : Nat) (m : Dist) (hnd : ps.Nodup)
    (j : Nat) (hj : j < ps.length) :
    (fair ps d m).get (ps[j]) = m.get (ps[j]) + d / ps.length + (if j < d % ps.length then 1 else 0) := by
  rw [(fair_adds ps d m).getElem hnd j hj, fairIncs_getElem, Nat.add_assoc]

/-- **C14 (Fair respects the priority order).** Between two listed priorities the one listed
    earlier (the higher one) never receives less, and never more than one unit more. -/
theorem c14_fair_mono (ps : List Nat) (d : Nat) (m : Dist) (hnd : ps.Nodup)
    (i j : Nat) (hij : i < j) (hj : j < ps.length) :
    (fair ps d m).get (ps[j]) - m.get (ps[j]) ≤ (fair ps d m).get (ps[i]) - m.get (ps[i]) ∧
    (fair ps d m).get (ps[i]) - m.get (ps[i]) ≤ (fair ps d m).get (ps[j]) - m.get (ps[j]) + 1 := by
  rw [c14_fair_shape ps d m hnd j hj, c14_fair_shape ps d m hnd i (Nat.lt_trans hij hj)]
  simp only [Nat.add_assoc, Nat.add_sub_cancel_left]
  grind

/-- the increments of `Rate` after the leftover has been added to the first entry -/
def rateFinalIncs (part : Nat → Nat) (ps : List Nat) (d : Nat) : List Nat :=
  match rateIncs part ps d with
  | (l, none) => l
  | (i :: l, some r) => (i + r) :: l
  | ([], some _) => []

theorem rateFinalIncs_eq (part : Nat → Nat) (ps : List Nat) (d : Nat) :
    rateFinalIncs part ps d = addHead ((rateIncs part ps d).2.getD 0) (rateIncs part ps d).1 := by
  unfold rateFinalIncs; split <;> rename_i heq <;> rw [heq]
  · exact (addHead_zero _).symm
  · rfl
  · rfl

theorem rateFinalIncs_length (part : Nat → Nat) (ps : List Nat) (d : Nat) :
    (rateFinalIncs part ps d).length = ps.length := by
  rw [rateFinalIncs_eq, length_addHead, rateIncs_length]

theorem rate_adds (part : Nat → Nat) (ps : List Nat) (d : Nat) (m : Dist) :
    AddsAlong ps (rateFinalIncs part ps d) m (rateWith part ps d m) := by
  cases ps with
  | nil => exact .nil m
  | cons p0 ps' =>
    obtain ⟨h, ho⟩ := rateLoop_adds part (p0 :: ps') d m
    rw [rateFinalIncs_eq, ← ho]
    simp only [rateWith]
    split <;> rename_i heq <;> rw [heq] at h ⊢
    · simpa using h
    · exact h.add_head _

theorem rateFinalIncs_sum (part : Nat → Nat) (ps : List Nat) (d : Nat) :
    (rateFinalIncs part ps d).sum = if ps = [] then 0 else d := by
  have hs := rateIncs_sum part ps d
  have hl := rateIncs_length part ps d
  rw [rateFinalIncs_eq, sum_addHead]
  cases ps with
  | nil => simp_all [rateIncs]
  | cons p ps =>
    rw [if_neg (fun e => by rw [e] at hl; exact nomatch hl), if_neg (List.cons_ne_nil _ _)]; exact hs

theorem conserves_rateWith (part : Nat → Nat) : Conserves (rateWith part) := fun ps d m => by
  rw [(rate_adds part ps d m).total, rateFinalIncs_sum]

theorem conserves_rate : Conserves rate := fun ps d m => conserves_rateWith _ ps d m

/-- **C14 (Rate conserves the dividend)** — for any rounding function. -/
theorem c14_rate_total (part : Nat → Nat) (ps : List Nat) (d : Nat) (m : Dist) (h : ps ≠ []) :
    (rateWith part ps d m).total = m.total + d := by
  rw [conserves_rateWith, if_neg h]

/-- **C14 (Rate changes nothing else).** -/
theorem c14_rate_frame (part : Nat → Nat) (ps : List Nat) (d : Nat) (m : Dist) (k : Nat)
    (hk : k ∉ ps) : (rateWith part ps d m).get k = m.get k :=
  (rate_adds part ps d m).frame hk

/-- entry of the j-th listed priority after `Rate` -/
theorem c14_rate_incs (part : Nat → Nat) (ps : List Nat) (d : Nat) (m : Dist) (hnd : ps.Nodup)
    (j : Nat) (hj : j < ps.length) :
    (rateWith part ps d m).get (ps[j]) =
      m.get (ps[j]) + (rateFinalIncs part ps d)[j]'(by rw [rateFinalIncs_length]; exact hj) :=
  (rate_adds part ps d m).getElem hnd j hj

/-- the loop of `Rate` never hands out more than the rounded part -/
theorem rateIncs_getElem_le (part : Nat → Nat) (qs : List Nat) (rem : Nat) (j : Nat) (hj : j < qs.length) :
    (rateIncs part qs rem).1[j]'(by rw [rateIncs_length]; exact hj) ≤ part qs[j] := by
  induction qs generalizing rem j with
  | nil => cases hj
  | cons q qs ih =>
    simp only [rateIncs]
    split
    · next hlt =>
      cases j with
      | zero => exact Nat.le_of_lt hlt
      | succ j => simp only [List.getElem_cons_succ, List.getElem_map]; exact Nat.zero_le _
    · cases j with
      | zero => exact Nat.le_refl _
      | succ j => exact ih _ j (Nat.lt_of_succ_lt_succ hj)

theorem rateIncs_pairwise (part : Nat → Nat) (ps : List Nat) (rem : Nat)
    (hanti : ps.Pairwise (fun a b => part b ≤ part a)) :
    (rateIncs part ps rem).1.Pairwise (fun a b => b ≤ a) := by
  induction ps generalizing rem with
  | nil => simp [rateIncs]
  | cons p ps ih =>
    have ha := List.pairwise_cons.1 hanti
    simp only [rateIncs]
    split
    · refine List.pairwise_cons.2 ⟨?_, ?_⟩
      · intro x hx; simp only [List.mem_map] at hx; obtain ⟨_, _, rfl⟩ := hx; omega
      · exact List.pairwise_map.2 (List.pairwise_of_forall fun _ _ => Nat.le_refl 0)
    · refine List.pairwise_cons.2 ⟨?_, ih _ ha.2⟩
      intro x hx
      obtain ⟨i, hi, rfl⟩ := List.mem_iff_getElem.1 hx
      have hi' : i < ps.length := rateIncs_length part ps _ ▸ hi
      exact Nat.le_trans (rateIncs_getElem_le part ps _ i hi') (ha.1 _ (List.getElem_mem hi'))

/-- **C14 (Rate respects the priority order).** If the rounded parts do not increase along
    the list, the increments do not increase along the list. -/
theorem c14_rate_mono (part : Nat → Nat) (ps : List Nat) (d : Nat)
    (hanti : ps.Pairwise (fun a b => part b ≤ part a)) :
    (rateFinalIncs part ps d).Pairwise (fun a b => b ≤ a) := by
  rw [rateFinalIncs_eq]; exact pairwise_addHead _ (rateIncs_pairwise part ps d hanti)

/-- **C14 (v1 = v2).** On a non-empty list the v1 dividers return exactly the v2 result
    (v1 additionally creates the map when given nil). -/
theorem c14_v1_eq_v2 (ps : List Nat) (d : Nat) (m : Dist) (h : ps ≠ []) :
    fairV1 ps d (some m) = fairV2 ps d (some m) ∧ rateV1 ps d (some m) = rateV2 ps d (some m) ∧
    fairV1 ps d none = some (fair ps d []) ∧ rateV1 ps d none = some (rate ps d []) := by
  simp [fairV1, fairV2, rateV1, rateV2, h]

/-! Non-vacuity: the documented examples. -/
example : fair [3, 2, 1] 6 [] = [(3, 2), (2, 2), (1, 2)] := by decide
example : fair [70, 20, 10] 100 [] = [(70, 34), (20, 33), (10, 33)] := by decide
example : rateFinalIncs (fun p => p) [3, 2, 1] 6 = [3, 2, 1] := by decide
example : rateFinalIncs (fun p => 2 * p) [3, 2, 1] 7 = [6, 1, 0] := by decide   -- truncation
example : [3, 2, 1].Pairwise (fun a b => (fun p => 2 * p) b ≤ (fun p => 2 * p) a) := by decide

/-! ### Rate: every increment is within n/2 of the exact proportional share

Scaled by `2·S` (`S` = sum of the priorities) to stay in the integers: `sc S x = 2·S·x` is an
amount of handlers, `ex d p = 2·d·p` is the exact share `d·p/S` of priority `p`; "`x` is within
`k/2` of the exact share of `p`" is `|sc S x − ex d p| ≤ k·S`.  The only fact used about the
rounding function is `Near`: each rounded part is within 1/2 of the exact share — for the
IEEE computation this is evaluated by the driver on every call it executes (`nearHalf`). -/

def sc (S x : Nat) : Int := ((2 * S * x : Nat) : Int)
def ex (d p : Nat) : Int := ((2 * d * p : Nat) : Int)
def bd (S n : Nat) : Int := ((n * S : Nat) : Int)

def exSum (d : Nat) : List Nat → Int
  | [] => 0
  | q :: qs => ex d q + exSum d qs

def scSum (S : Nat) (part : Nat → Nat) : List Nat → Int
  | [] => 0
  | q :: qs => sc S (part q) + scSum S part qs

def Near (S d : Nat) (part : Nat → Nat) (p : Nat) : Prop :=
  sc S (part p) ≤ ex d p + S ∧ ex d p ≤ sc S (part p) + S

theorem near_of_nearHalf (S d : Nat) (part : Nat → Nat) (p : Nat) (h : nearHalf d S part p = true) :
    Near S d part p := by
  simp only [nearHalf, Bool.and_eq_true, decide_eq_true_eq] at h
  unfold Near sc ex
  constructor <;> omega

theorem sc_nonneg (S x : Nat) : 0 ≤ sc S x := Int.natCast_nonneg _
theorem ex_nonneg (d p : Nat) : 0 ≤ ex d p := Int.natCast_nonneg _
theorem bd_nonneg (S n : Nat) : 0 ≤ bd S n := Int.natCast_nonneg _
theorem bd_zero (S : Nat) : bd S 0 = 0 := by simp [bd]
theorem bd_succ (S n : Nat) : bd S (n + 1) = bd S n + S := by
  unfold bd; rw [Nat.succ_mul]; omega

theorem sc_add (S x y : Nat) : sc S (x + y) = sc S x + sc S y := by
  unfold sc; rw [Nat.mul_add]; omega

theorem sc_sub (S x y : Nat) (h : y ≤ x) : sc S (x - y) = sc S x - sc S y := by
  have := sc_add S (x - y) y
  rw [Nat.sub_add_cancel h] at this; omega

theorem sc_le (S : Nat) {x y : Nat} (h : x ≤ y) : sc S x ≤ sc S y :=
  Int.ofNat_le.2 (Nat.mul_le_mul_left _ h)

theorem sc_zero (S : Nat) : sc S 0 = 0 := by simp [sc]

theorem exSum_nonneg (d : Nat) (qs : List Nat) : 0 ≤ exSum d qs := by
  induction qs with
  | nil => simp [exSum]
  | cons q qs ih => simp only [exSum]; have := ex_nonneg d q; omega

theorem ex_le_exSum (d : Nat) (qs : List Nat) (q : Nat) (h : q ∈ qs) : ex d q ≤ exSum d qs := by
  induction qs with
  | nil => cases h
  | cons x xs ih =>
    simp only [exSum]
    rcases List.mem_cons.1 h with rfl | h'
    · have := exSum_nonneg d xs; omega
    · have := ih h'; have := ex_nonneg d x; omega

theorem exSum_eq (d : Nat) (ps : List Nat) : exSum d ps = sc (sumPriorities ps) d := by
  induction ps with
  | nil => simp [exSum, sumPriorities, sc]
  | cons p ps ih =>
    simp only [exSum, sumPriorities, ih]
    unfold ex sc
    have h1 : 2 * (p + sumPriorities ps) * d = 2 * d * p + 2 * sumPriorities ps * d := by
      rw [Nat.mul_add, Nat.add_mul, Nat.mul_assoc 2 p d, Nat.mul_comm p d, ← Nat.mul_assoc]
    rw [h1]; omega

theorem scSum_near (S d : Nat) (part : Nat → Nat) (qs : List Nat) (h : ∀ q ∈ qs, Near S d part q) :
    scSum S part qs ≤ exSum d qs + bd S qs.length ∧ exSum d qs ≤ scSum S part qs + bd S qs.length := by
  induction qs with
  | nil => simp [scSum, exSum, bd]
  | cons q qs ih =>
    have hq := h q (by simp)
    have := ih (fun x hx => h x (List.mem_cons_of_mem _ hx))
    simp only [scSum, exSum, List.length_cons, bd_succ]
    unfold Near at hq
    omega

theorem rateIncs_some (S : Nat) (part : Nat → Nat) (qs : List Nat) (rem r : Nat)
    (h : (rateIncs part qs rem).2 = some r) :
    (rateIncs part qs rem).1 = qs.map part ∧ sc S rem = scSum S part qs + sc S r := by
  induction qs generalizing rem with
  | nil => simp only [rateIncs] at h; cases h; simp [rateIncs, scSum]
  | cons q qs ih =>
    simp only [rateIncs] at h ⊢
    split at h
    · cases h
    · rename_i hge
      rw [if_neg hge]
      obtain ⟨h1, h2⟩ := ih _ h
      refine ⟨by simp [h1], ?_⟩
      simp only [scSum]
      rw [sc_sub S rem (part q) (by omega)] at h2
      omega

/-- truncation: the loop left through its `return`; `B` is the error budget the earlier entries
    have used up: how far the remainder may fall short of the exact shares still to come (an excess
    does no harm: no entry is above its rounded part) -/
theorem rateIncs_truncated_near (S d : Nat) (part : Nat → Nat) (qs : List Nat) (rem : Nat) (B : Int)
    (hB : 0 ≤ B) (hn : ∀ q ∈ qs, Near S d part q) (h2 : exSum d qs ≤ sc S rem + B)
    (htr : (rateIncs part qs rem).2 = none) (j : Nat) (hj : j < qs.length) :
    sc S ((rateIncs part qs rem).1[j]'(by rw [rateIncs_length]; exact hj)) ≤ ex d qs[j] + (B + bd S qs.length) ∧
    ex d qs[j] ≤ sc S ((rateIncs part qs rem).1[j]'(by rw [rateIncs_length]; exact hj)) + (B + bd S qs.length) := by
  induction qs generalizing rem B j with
  | nil => exact absurd hj (Nat.not_lt_zero _)
  | cons q qs ih =>
    obtain ⟨hq1, hq2⟩ := hn q List.mem_cons_self
    have hbn := bd_nonneg S qs.length
    have hen := exSum_nonneg d qs
    simp only [List.length_cons, bd_succ]
    simp only [exSum] at h2
    simp only [rateIncs] at htr ⊢
    split at htr
    · next hlt =>
      have hsl := sc_le S (Nat.le_of_lt hlt)
      simp only [if_pos hlt]
      cases j with
      | zero =>
        simp only [List.getElem_cons_zero]
        omega
      | succ j =>
        have hj' : j < qs.length := Nat.lt_of_succ_lt_succ hj
        have hle := ex_le_exSum d qs _ (List.getElem_mem hj')
        have := ex_nonneg d qs[j]
        simp only [List.getElem_cons_succ, List.getElem_map, sc_zero]
        omega
    · next hlt =>
      simp only [if_neg hlt]
      cases j with
      | zero =>
        simp only [List.getElem_cons_zero]
        omega
      | succ j =>
        have hsub := sc_sub S rem (part q) (Nat.le_of_not_lt hlt)
        have := ih (rem - part q) (B + S) (Int.add_nonneg hB (Int.natCast_nonneg S))
          (fun x hx => hn x (List.mem_cons_of_mem _ hx)) (by omega) htr j (Nat.lt_of_succ_lt_succ hj)
        simp only [List.getElem_cons_succ]
        omega

/-- truncation, as `rateIncs_truncated_near` with the remainder bounded from both sides -/
theorem rateIncs_none_near (S d : Nat) (part : Nat → Nat) (hS : 0 < S) (qs : List Nat) (rem : Nat) (B : Int)
    (hB : 0 ≤ B) (hn : ∀ q ∈ qs, Near S d part q)
    (h1 : sc S rem ≤ exSum d qs + B) (h2 : exSum d qs ≤ sc S rem + B)
    (htr : (rateIncs part qs rem).2 = none) (j : Nat) (hj : j < qs.length) :
    sc S ((rateIncs part qs rem).1[j]'(by rw [rateIncs_length]; exact hj)) ≤ ex d qs[j] + (B + bd S qs.length) ∧
    ex d qs[j] ≤ sc S ((rateIncs part qs rem).1[j]'(by rw [rateIncs_length]; exact hj)) + (B + bd S qs.length) :=
  rateIncs_truncated_near S d part qs rem B hB hn h2 htr j hj

/-- **C14 (Rate is within n/2 of the exact proportional share).** For a non-empty list whose
    priorities sum to `S > 0` and a rounding function that is within 1/2 of the exact share on
    every listed priority, every increment `x_j` of `Rate` satisfies
    `|2·S·x_j − 2·d·p_j| ≤ n·S`, i.e. `|x_j − d·p_j/S| ≤ n/2` (n = number of priorities). -/
theorem c14_rate_near (part : Nat → Nat) (ps : List Nat) (d : Nat)
    (hS : 0 < sumPriorities ps) (hn : ∀ p ∈ ps, Near (sumPriorities ps) d part p)
    (j : Nat) (hj : j < ps.length) :
    sc (sumPriorities ps) ((rateFinalIncs part ps d)[j]'(by rw [rateFinalIncs_length]; exact hj))
        ≤ ex d ps[j] + bd (sumPriorities ps) ps.length ∧
    ex d ps[j] ≤ sc (sumPriorities ps) ((rateFinalIncs part ps d)[j]'(by rw [rateFinalIncs_length]; exact hj))
        + bd (sumPriorities ps) ps.length := by
  have hex := exSum_eq d ps
  cases hro : (rateIncs part ps d).2 with
  | none =>
    have hfin : rateFinalIncs part ps d = (rateIncs part ps d).1 := by
      rw [rateFinalIncs_eq, hro]; exact addHead_zero _
    have := rateIncs_truncated_near (sumPriorities ps) d part ps d 0 (Int.le_refl 0) hn
      (Int.le_of_eq (by rw [hex, Int.add_zero])) hro j hj
    rw [Int.zero_add] at this
    simp only [hfin]
    exact this
  | some r =>
    obtain ⟨hl, hsum⟩ := rateIncs_some (sumPriorities ps) part ps d r hro
    cases ps with
    | nil => exact absurd hj (Nat.not_lt_zero _)
    | cons p0 ps' =>
      have hfin : rateFinalIncs part (p0 :: ps') d = (part p0 + r) :: ps'.map part := by
        rw [rateFinalIncs_eq, hro, hl]; rfl
      have hbn := bd_nonneg (sumPriorities (p0 :: ps')) ps'.length
      simp only [List.length_cons, bd_succ]
      cases j with
      | zero =>
        -- the first entry takes the leftover: it is off by what the others are off, in total
        have hrest := scSum_near (sumPriorities (p0 :: ps')) d part ps' (fun x hx => hn x (List.mem_cons_of_mem _ hx))
        obtain ⟨hp1, hp2⟩ := hn p0 List.mem_cons_self
        simp only [scSum, exSum] at hsum hex
        simp only [hfin, List.getElem_cons_zero, sc_add]
        omega
      | succ j =>
        have hj' : j < ps'.length := Nat.lt_of_succ_lt_succ hj
        obtain ⟨hq1, hq2⟩ := hn ps'[j] (List.mem_cons_of_mem _ (List.getElem_mem hj'))
        simp only [hfin, List.getElem_cons_succ, List.getElem_map]
        omega

/-- non-vacuity of `c14_rate_near`: priorities 3,2,1, dividend 7, exact half-away rounding -/
example : (∀ p ∈ [3, 2, 1], Near (sumPriorities [3, 2, 1]) 7 (exactPart 7 6) p) ∧
    rateFinalIncs (exactPart 7 6) [3, 2, 1] 7 = [4, 2, 1] := by
  refine ⟨?_, by decide⟩
  intro p hp
  apply near_of_nearHalf
  simp only [List.mem_cons, List.mem_nil_iff, or_false] at hp
  rcases hp with rfl | rfl | rfl <;> decide

end Cqos.C14
