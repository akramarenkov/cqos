import Cqos.Props.C04r
/-
  C04, window clause at the RECEIVING side — what does hold.  `Props/C04r.lean` shows that the
  clause fails for a consumer that pauses (finding F2: the output buffer is handed over at
  once).  Here the same composition (limit machine + FIFO output buffer of any capacity +
  consumer) is given the hypothesis that makes the clause true: a consumer that is never more
  than `δ` behind (`PromptConsumer`).  With `δ = 0` (a consumer that is always ready, or an
  unbuffered hand-over) this is the clause as stated.
-/
namespace Cqos.C04

/-- the composed machine: its limit component is a run of the limit machine; the buffer holds
    exactly the elements sent and not yet received; an element is received after its send -/
structure BInv (cfg : LCfg) (t0 : Nat) (s : BSt) : Prop where
  reach : ∃ acts, lrun (linit cfg t0) acts = some s.lim
  len : s.got.length + s.buf.length = s.lim.sent.length
  after : ∀ i (h : i < s.got.length) (h' : i < s.lim.sent.length), (s.lim.sent[i]).2 ≤ (s.got[i]).2

theorem binv_init (cfg : LCfg) (cap t0 : Nat) : BInv cfg t0 (binit cfg cap t0) :=
  ⟨⟨[], rfl⟩, rfl, fun _ h _ => nomatch h⟩

theorem binv_step (cfg : LCfg) (t0 : Nat) (s s' : BSt) (a : BAct) (h : BInv cfg t0 s)
    (hs : bstep s a = some s') : BInv cfg t0 s' := by
  obtain ⟨⟨acts, hacts⟩, hlen, haft⟩ := h
  have reach' {la l} (hl : lstep s.lim la = some l) : ∃ acts', lrun (linit cfg t0) acts' = some l :=
    ⟨acts ++ [la], lrun_snoc hacts hl⟩
  unfold bstep at hs
  split at hs
  · -- the completion of a send: the element goes to the buffer
    split at hs
    · split at hs
      · obtain ⟨l, hl, rfl⟩ := Option.map_eq_some_iff.1 hs
        cases LStep.of_lstep hl with
        | sent k st x' _ hpc hle =>
          refine ⟨reach' hl, ?_, fun i hi hi' => ?_⟩
          · simp only [List.length_append, List.length_singleton, ← hlen, Nat.add_assoc]
          · have hlt : i < s.lim.sent.length := Nat.lt_of_lt_of_le hi (hlen ▸ Nat.le_add_right ..)
            simp only [List.getElem_append_left hlt]; exact haft i hi hlt
      · cases hs
    · cases hs
  · -- any other step of the limiter leaves the log of sends, hence `len` and `after`, as they are
    rename_i hla
    obtain ⟨l, hl, rfl⟩ := Option.map_eq_some_iff.1 hs
    have he := (LStep.of_lstep hl).sent_same hla
    exact ⟨reach' hl, he ▸ hlen, he ▸ haft⟩
  · split at hs
    · cases hs
    · rename_i hbuf
      split at hs <;> cases hs
      rename_i hnow
      rw [hbuf, List.length_cons] at hlen
      refine ⟨⟨acts, hacts⟩, ?_, fun i hi hi' => ?_⟩
      · simp only [List.length_append, List.length_singleton, ← hlen, Nat.add_right_comm, Nat.add_assoc]
      rcases getElem_concat_cases hi with ⟨hlt, e⟩ | ⟨rfl, e⟩ <;> simp only [e]
      · exact haft i hlt hi'
      · -- the element taken was sent before now
        exact Nat.le_trans ((c04_sent_sorted cfg t0 acts s.lim hacts).2 _ (List.getElem_mem hi')) hnow

theorem brun_eq_foldlM (s : BSt) (acts : List BAct) : brun s acts = acts.foldlM bstep s :=
  eq_foldlM bstep brun (fun _ => rfl) (fun s a _ => by rw [brun]; cases bstep s a <;> rfl) s acts

theorem binv_run (cfg : LCfg) (t0 : Nat) (acts : List BAct) (s s' : BSt) (h : BInv cfg t0 s)
    (hr : brun s acts = some s') : BInv cfg t0 s' :=
  foldlM_induction (fun s a s' => binv_step cfg t0 s s' a) h (brun_eq_foldlM s acts ▸ hr)

/-- a consumer that is never more than `δ` behind: every element it has received, it received
    within `δ` of the completion of its send -/
def PromptConsumer (s : BSt) (δ : Nat) : Prop :=
  ∀ i (h : i < s.got.length) (h' : i < s.lim.sent.length), (s.got[i]).2 ≤ (s.lim.sent[i]).2 + δ

/-- **C04 (window, at the receiving side, for a consumer at most `δ` behind).** For every run of
    the limit discipline composed with its output buffer (any capacity) and a consumer, every
    `a` and every `W`: if the consumer received every element within `δ` of its send, the number
    of elements RECEIVED at a clock reading in `[a, a + W]` is at most
    `Quantity·(⌊(W + δ)/Interval⌋ + 2)`. -/
theorem c04_receive_window_prompt (cfg : LCfg) (cap t0 : Nat) (hq : 0 < cfg.quantity) (hI : 0 < cfg.interval)
    (acts : List BAct) (s : BSt) (hr : brun (binit cfg cap t0) acts = some s) (δ : Nat)
    (hp : PromptConsumer s δ) (a W : Nat) :
    (s.got.filter (fun e => decide (a ≤ e.2 ∧ e.2 ≤ a + W))).length ≤ cfg.quantity * ((W + δ) / cfg.interval + 2) := by
  obtain ⟨⟨lacts, hl⟩, hlen, haft⟩ := binv_run cfg t0 acts _ s (binv_init cfg cap t0) hr
  obtain ⟨rfl, rfl, _, hw⟩ := wrun_inv hl
  exact hw.batched.window_count_delayed hq hI (fun i hi =>
    have hi' : i < s.lim.sent.length := Nat.lt_of_lt_of_le hi (hlen ▸ Nat.le_add_right ..)
    ⟨_, List.getElem?_eq_getElem hi', haft i hi hi', hp i hi hi'⟩) a W

/-- the hypothesis is satisfiable and the bound is tight in the run of `c04_receive_side_window_fails`
    cut before the consumer went away: two elements received as they were sent (δ = 0) -/
example :
    (brun (binit ⟨1, 10⟩ 3 0)
      ([.lim (.start 0), .lim (.recv 1), .lim (.sent 0), .take 0, .lim (.batchEnd 0), .lim (.wake 10),
        .lim (.start 10), .lim (.recv 2), .lim (.sent 10), .take 10])).map
      (fun s => (s.got.map (·.2), s.lim.sent.map (·.2))) = some ([0, 10], [0, 10]) := by decide +kernel

end Cqos.C04
