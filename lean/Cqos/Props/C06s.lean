import Cqos.Props.C06f
import Cqos.Props.C01s
/-
  The eventuality of C06 for the simplified v2 discipline (`priority/simple`), where the handlers are
  part of the system and nothing is left to an environment (`c06_simple_every_item_handled`; with
  `c02_simple_v2` this is "every item written is handled exactly once, eventually", up to fairness
  of the Go scheduler).

  `c06_every_item` gives a continuation of the inner machine made of releases and own steps; every
  `release r` in it is realised by the handlers: per priority, what is in flight is what they are
  handling plus what was delivered and not yet picked up (`PAcc`), so once everything delivered has
  been picked up (`take_all`) some handler holds an item of priority `r`.
-/
namespace Cqos.C06
open Cqos.C01

/-- priorities of the items delivered and not yet picked up by a handler -/
def unpicked (s : SimpleSt) : List Nat := (s.inner.delivered.drop s.picked).map (·.1)

/-- per priority: in flight = being handled + delivered and not yet picked up -/
def PAcc (s : SimpleSt) : Prop :=
  s.picked ≤ s.inner.delivered.length ∧ ∀ r, s.inner.inflight.get r = (unpicked s).count r + s.handling.count r

theorem pacc_sstep (div : DivFn) (s s' : SimpleSt) (a : SAct) (h : PAcc s) (hs : sstep div s a = some s') : PAcc s' := by
  obtain ⟨hle, hacc⟩ := h
  rcases sstep_cases hs with ⟨b, i, rfl, hnr, hi, rfl⟩ | ⟨d, rfl, hd, rfl⟩ | ⟨p, rfl, hmem, hne, rfl⟩
  · -- the inner machine moves: nothing, or one more item of `p` in flight and waiting to be picked up
    rcases step_inflight hi hnr with ⟨e1, e2⟩ | ⟨p, c, x, e1, e2⟩
    · refine ⟨by show s.picked ≤ i.delivered.length; rw [e2]; exact hle, ?_⟩
      intro r
      show i.inflight.get r = ((i.delivered.drop s.picked).map (·.1)).count r + s.handling.count r
      rw [e1, e2]; exact hacc r
    · refine ⟨by show s.picked ≤ i.delivered.length; rw [e2]; simp; omega, ?_⟩
      intro r
      show i.inflight.get r = ((i.delivered.drop s.picked).map (·.1)).count r + s.handling.count r
      rw [e1, e2, List.drop_append_of_le_length hle, List.map_append, List.count_append, Dist.get_add]
      have := hacc r
      unfold unpicked at this
      by_cases hpr : p = r
      · subst hpr
        have e : (List.map (fun x => x.1) [(p, c, x)]).count p = 1 := by simp
        rw [if_pos rfl, e]; omega
      · have e : (List.map (fun x => x.1) [(p, c, x)]).count r = 0 := by
          simp only [List.map_cons, List.map_nil]
          exact List.count_eq_zero.2 (by simp; exact fun h => hpr h.symm)
        rw [if_neg hpr, e]; omega
  · -- `take`: the item moves from waiting to being handled
    have hlt : s.picked < s.inner.delivered.length := (List.getElem?_eq_some_iff.mp hd).1
    have hd' : s.inner.delivered[s.picked] = d := (List.getElem?_eq_some_iff.mp hd).2
    refine ⟨by show s.picked + 1 ≤ s.inner.delivered.length; omega, ?_⟩
    intro r
    show s.inner.inflight.get r = ((s.inner.delivered.drop (s.picked + 1)).map (·.1)).count r + (d.1 :: s.handling).count r
    have := hacc r
    unfold unpicked at this
    rw [List.drop_eq_getElem_cons hlt, hd'] at this
    simp only [List.map_cons, List.count_cons] at this ⊢
    omega
  · -- `finish p`: one item of `p` less in flight and being handled
    refine ⟨hle, ?_⟩
    intro r
    show (s.inner.inflight.set p (s.inner.inflight.get p - 1)).get r =
      ((s.inner.delivered.drop s.picked).map (·.1)).count r + (s.handling.erase p).count r
    have := hacc r
    unfold unpicked at this
    rw [Dist.get_set]
    by_cases hpr : p = r
    · subst hpr
      simp only [if_true]
      rw [List.count_erase_self]
      have hc : 0 < s.handling.count p := List.count_pos_iff.2 hmem
      omega
    · simp only [hpr, if_false]
      rw [List.count_erase_of_ne (fun e => hpr e.symm)]
      exact this

theorem pacc_srun (div : DivFn) (acts : List SAct) (u u' : SimpleSt) (h : PAcc u) (hr : srun div u acts = some u') : PAcc u' :=
  srun_induction (fun s a s' => pacc_sstep div s s' a) h hr

/-- the handlers pick up everything that has been delivered: they then hold every priority that was
    waiting to be picked up -/
theorem take_all (div : DivFn) (u : SimpleSt) :
    ∃ sacts u', srun div u sacts = some u' ∧ u'.inner = u.inner ∧ u.inner.delivered.length ≤ u'.picked ∧
      (∀ a ∈ sacts, a = .take) ∧ (∀ r, r ∈ unpicked u ∨ r ∈ u.handling → r ∈ u'.handling) ∧
      ∃ hl, u'.handled = u.handled ++ hl := by
  by_cases hlt : u.picked < u.inner.delivered.length
  · let d := u.inner.delivered[u.picked]
    let u1 : SimpleSt := { u with handling := d.1 :: u.handling, picked := u.picked + 1, handled := u.handled ++ [d] }
    have hstep : sstep div u .take = some u1 := by simp [sstep, List.getElem?_eq_getElem hlt, u1, d]
    have hun : unpicked u = d.1 :: unpicked u1 := by
      show (u.inner.delivered.drop u.picked).map (·.1) = d.1 :: (u.inner.delivered.drop (u.picked + 1)).map (·.1)
      rw [List.drop_eq_getElem_cons hlt]; rfl
    obtain ⟨sa, u', hr', hi', hp', ht', hm', hl, hhl⟩ := take_all div u1
    refine ⟨.take :: sa, u', srun_cons_iff.2 ⟨u1, hstep, hr'⟩, hi', hp', List.forall_mem_cons.2 ⟨rfl, ht'⟩,
      fun r hr => hm' r ?_, d :: hl, ?_⟩
    · rw [hun] at hr
      rcases hr with hr | hr
      · rcases List.mem_cons.1 hr with e | e
        · exact .inr (e ▸ List.mem_cons_self ..)
        · exact .inl e
      · exact .inr (List.mem_cons_of_mem _ hr)
    · rw [hhl]; show u.handled ++ [d] ++ hl = u.handled ++ d :: hl; simp
  · refine ⟨[], u, rfl, rfl, by omega, (fun _ h => nomatch h), fun r hr => hr.resolve_left ?_, [], (List.append_nil _).symm⟩
    rw [unpicked, List.drop_eq_nil_of_le (by omega)]; exact List.not_mem_nil
termination_by u.inner.delivered.length - u.picked
decreasing_by show u.inner.delivered.length - (u.picked + 1) < u.inner.delivered.length - u.picked; omega

/-- steps of the layered machine that are not the environment's: inner own actions, `take`, `finish` -/
def sOwn : SAct → Bool
  | .inner a => isOwn a
  | _ => true

/-- a continuation of the inner machine made of releases and own steps is realised by the layered
    machine of either version, the handlers issuing the releases; `PAcc` is kept and `Handle` calls
    are only added -/
theorem lift_run_any (div : DivFn) : ∀ (acts : List Act) (u : SimpleSt) (s' : St), PAcc u →
    (∀ a ∈ acts, isOwn a = true ∨ ∃ r, a = .release r) → run div u.inner acts = some s' →
    ∃ sacts u', srun div u sacts = some u' ∧ u'.inner = s' ∧ PAcc u' ∧ (∀ a ∈ sacts, sOwn a = true) ∧
      (∃ hl, u'.handled = u.handled ++ hl) := by
  intro acts
  induction acts with
  | nil =>
    intro u s' h _ hr
    cases hr
    exact ⟨[], u, rfl, rfl, h, (fun _ h => nomatch h), [], (List.append_nil _).symm⟩
  | cons a as ih =>
    intro u s' h hok hr
    obtain ⟨s1, hs1, hrs⟩ := run_cons_iff.1 hr
    obtain ⟨hoka, hokas⟩ := List.forall_mem_cons.1 hok
    by_cases hrel : isRelease a = true
    · -- a release: some handler finishes an item of that priority
      cases a with
      | release r =>
        have hne := (release_inv hs1).1
        have hcnt := h.2 r
        have hpos : r ∈ unpicked u ∨ r ∈ u.handling :=
          (show 0 < (unpicked u).count r ∨ 0 < u.handling.count r by omega).imp List.count_pos_iff.1 List.count_pos_iff.1
        obtain ⟨t, u1, hr1, hi1, _, ht1, hm1, hl1, hhl1⟩ := take_all div u
        have hm1 := hm1 r hpos
        have p1 := pacc_srun div t u u1 h hr1
        let u2 : SimpleSt := { u1 with inner := s1, handling := u1.handling.erase r }
        have hstep : sstep div u1 (.finish r) = some u2 := by
          simp only [sstep, hm1, if_true, hi1, hs1.step_eq, Option.map_some, u2]
        have p2 : PAcc u2 := pacc_sstep div u1 u2 (.finish r) p1 hstep
        obtain ⟨sa, u', hr', hi', hp', ho', hl', hhl'⟩ := ih u2 s' p2 hokas hrs
        refine ⟨t ++ (.finish r :: sa), u', srun_append_iff.2 ⟨u1, hr1, srun_cons_iff.2 ⟨u2, hstep, hr'⟩⟩, hi', hp',
          List.forall_mem_append.2 ⟨fun b e => by rw [ht1 b e]; rfl, List.forall_mem_cons.2 ⟨rfl, ho'⟩⟩, hl1 ++ hl', ?_⟩
        rw [hhl']; show u1.handled ++ hl' = u.handled ++ (hl1 ++ hl'); rw [hhl1, List.append_assoc]
      | _ => simp [isRelease] at hrel
    · have hnr : isRelease a = false := by simpa using hrel
      have hown : isOwn a = true := by
        rcases hoka with e | ⟨r, e⟩
        · exact e
        · subst e; simp [isRelease] at hnr
      let u1 : SimpleSt := { u with inner := s1 }
      have hstep : sstep div u (.inner a) = some u1 := by simp [sstep, hnr, hs1.step_eq, u1]
      have p1 : PAcc u1 := pacc_sstep div u u1 (.inner a) h hstep
      obtain ⟨sa, u', hr', hi', hp', ho', hl', hhl'⟩ := ih u1 s' p1 hokas hrs
      exact ⟨.inner a :: sa, u', srun_cons_iff.2 ⟨u1, hstep, hr'⟩, hi', hp', List.forall_mem_cons.2 ⟨hown, ho'⟩, hl', hhl'⟩

/-- a continuation of the inner machine made of releases and own steps is realised by the layered
    machine, the handlers issuing the releases -/
theorem lift_run (div : DivFn) : ∀ (acts : List Act) (u : SimpleSt) (s' : St), u.inner.cfg.v1 = false → PAcc u →
    (∀ a ∈ acts, isOwn a = true ∨ ∃ r, a = .release r) → run div u.inner acts = some s' →
    ∃ sacts u', srun div u sacts = some u' ∧ u'.inner = s' ∧ PAcc u' ∧ (∀ a ∈ sacts, sOwn a = true) ∧
      (∃ hl, u'.handled = u.handled ++ hl) :=
  fun acts u s' _ => lift_run_any div acts u s'

/-- **C06 + C02 for the simplified v2 discipline (every item is handled).** After ANY run of the
    layered machine (v2 discipline + its handlers; divider obeying the sum rule): every item still
    queued in the channel of a registered, undrained priority gets `Handle` called for it by a
    continuation in which nothing is left to an environment — only the discipline's own steps and the
    handlers' `take` / `finish` steps occur. -/
theorem c06_simple_every_item_handled (div : DivFn) (hg : SumRule div) (keys : List (Nat × Bool)) (H : Nat) (hH : 0 < H)
    (hnd : (keys.map (·.1)).Nodup) (s0 : St) (h0 : initV2 div keys H = .ok s0)
    (hsum : sumOver s0.prios s0.strategic = H) (sacts : List SAct) (u : SimpleSt)
    (hr : srun div (sinit s0) sacts = some u)
    (p : Nat) (inp : Input) (hin : alGet u.inner.inputs p = some inp) (hud : inp.drained = false)
    (ch : Chan) (pre : List Nat) (x : Nat) (post : List Nat)
    (hch : alGet u.inner.chans inp.chan = some ch) (hq : ch.queue = pre ++ x :: post) :
    ∃ sacts' u', srun div u sacts' = some u' ∧ (∀ a ∈ sacts', sOwn a = true) ∧
      ∃ hl, u'.handled = u.handled ++ hl ∧ (p, inp.chan, x) ∈ hl := by
  obtain ⟨hf, _⟩ := initV2_fresh div keys H s0 h0
  have hd0 : s0.delivered = [] := by obtain ⟨_, _, rfl⟩ := initV2_ok h0; rfl
  have hp0 : PAcc (sinit s0) := by
    refine ⟨by simp [sinit], ?_⟩
    intro r
    show s0.inflight.get r = ((s0.delivered.drop s0.delivered.length).map (·.1)).count r + ([] : List Nat).count r
    rw [hf.2.1]; simp
  have hpu := pacc_srun div sacts (sinit s0) u hp0 hr
  have hsi : SInv s0.delivered.length u := srun_inv div s0.delivered.length sacts (sinit s0) u (sinit_inv hf) hr
  have hrun := srun_run div sacts (sinit s0) u hr
  obtain ⟨acts', s', hr', ⟨dl, hdl, hmem⟩, hok⟩ :=
    c06_every_item div hg keys H hH hnd s0 u.inner (innerActs sacts) h0 hsum hrun p inp hin hud ch pre x post hch hq
  obtain ⟨sa1, u1, hr1, hi1, hp1, ho1, hl1, hhl1⟩ := lift_run_any div acts' u s' hpu hok hr'
  obtain ⟨sa2, u2, hr2, hi2, hpk2, ht2, _⟩ := take_all div u1
  have hr12 : srun div u (sa1 ++ sa2) = some u2 := srun_append_iff.2 ⟨u1, hr1, hr2⟩
  have hr02 : srun div (sinit s0) (sacts ++ (sa1 ++ sa2)) = some u2 := srun_append_iff.2 ⟨u, hr, hr12⟩
  have hsi2 : SInv s0.delivered.length u2 := srun_inv div s0.delivered.length _ (sinit s0) u2 (sinit_inv hf) hr02
  refine ⟨sa1 ++ sa2, u2, hr12, List.forall_mem_append.2 ⟨ho1, fun a e => by rw [ht2 a e]; rfl⟩, ?_⟩
  · -- handled = everything delivered (after what had been delivered before the handlers started: nothing)
    have hb2 := hsi2.handledOK.2
    have hb := hsi.handledOK.2
    rw [hd0] at hb2 hb
    simp only [List.length_nil, List.drop_zero] at hb2 hb
    have hdel2 : u2.inner.delivered = u.inner.delivered ++ dl := by rw [hi2, hi1]; exact hdl
    have hpk : u2.picked = u2.inner.delivered.length := by
      have := hsi2.picked_le
      rw [hi2] at this ⊢
      omega
    have h2 : u2.handled = u.inner.delivered ++ dl := by rw [hb2, hpk, List.take_length, hdel2]
    refine ⟨u.inner.delivered.drop u.picked ++ dl, ?_, List.mem_append_right _ hmem⟩
    rw [h2, hb, ← List.append_assoc, List.take_append_drop]

end Cqos.C06
