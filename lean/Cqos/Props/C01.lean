import Cqos.Lemmas.SchedInv
import Cqos.Lemmas.V2
import Cqos.DriverSched
/-
  Property C01 — items in processing never exceed HandlersQuantity.

  `step` (Cqos/Sched.lean) is the micro-step machine of the v1 and v2 priority
  disciplines; `run` applies an arbitrary list of actions.  Environment actions
  (arrivals, closes, releases, Stop, GracefulStop, and — through `Act.top` — AddInput /
  RemoveInput / the choice of the loop-top `select`) are interleaved arbitrarily with the
  discipline's own steps, so a statement about every action list is a statement about
  every schedule.  `inflight` is the history variable "delivered on the output minus
  release ISSUED".

  The theorems hold for EVERY divider function `div` (call-indexed, so stateful and
  faulty dividers are included): `safeDivide` is part of the model, and a division it
  rejects stops the deliveries.  They hold for every initial `strategic` distribution.
-/
namespace Cqos.C01

theorem afterTop_inv {s : St} (hcore : Core s.actual s.inflight s.pending) (hle : s.actual.total ≤ s.cfg.H) :
    Inv (afterTop s) :=
  ⟨core_clear hcore _, by simp only [afterTop, capOk, total_clearActual]; exact hle, nofun⟩

theorem afterWaitFb_inv {s : St} (hcore : Core s.actual s.inflight s.pending) (hle : s.actual.total ≤ s.cfg.H) :
    Inv (afterWaitFb s) := by
  unfold afterWaitFb
  split
  · exact ⟨hcore, by simp only [capOk, Dist.total_zeroAll]; omega, nofun⟩
  · exact ⟨hcore, hle, nofun⟩

theorem stepCalc_inv {div : DivFn} {s : St} (h : Inv s) : Inv (stepCalc div s) := by
  have hle : s.actual.total ≤ s.cfg.H := capOk_weaken h.cap
  fun_cases stepCalc div s
  case case1 | case2 => exact absurd ‹s.cfg.H < _› (Nat.not_lt.2 hle)
  case case3 hv =>
    have := calcTacticWith_total hv
    exact ⟨h.core, Nat.add_le_of_le_sub' hle this, nofun⟩
  case case4 | case5 => exact ⟨h.core, hle, nofun⟩

theorem stepRecalc_inv {div : DivFn} {s : St} (h : Inv s) (hpc : s.pc = .prio 1 []) : Inv (stepRecalc div s) := by
  have hcap : s.actual.total + s.tactic.total ≤ s.cfg.H := by
    have := h.cap; rw [hpc] at this; exact this
  fun_cases stepRecalc div s
  case case1 hv | case2 hv =>
    exact ⟨h.core, Nat.le_trans (Nat.add_le_add_left (recalcTacticWith_total hv) _) hcap, nofun⟩
  case case3 => exact ⟨h.core, Nat.le_trans (Nat.le_add_right _ _) hcap, nofun⟩

theorem step_inv {div : DivFn} {s s' : St} {a : Act} (h : Inv s) (hs : Step div s a s') : Inv s' := by
  have hle : s.actual.total ≤ s.cfg.H := capOk_weaken h.cap
  cases hs with
  | arrive _ _ | close _ | stop _ | graceful _ => exact ⟨h.core, h.cap, h.nofault⟩
  | release hne => exact ⟨core_release h.core _ hne, h.cap, h.nofault⟩
  | own hpc ho =>
    have hcap := h.cap
    rw [hpc] at hcap
    cases ho with
    | goto hg =>
      cases hg with
      | skip _ | pollEmpty _ _ | pollStop _ _ _ => exact ⟨h.core, hcap, nofun⟩
      | _ => exact ⟨h.core, hle, nofun⟩
    | topAdd _ | topRemove _ | topNone _ => exact afterTop_inv h.core hle
    | «calc» => exact stepCalc_inv h
    | recalc => exact stepRecalc_inv h hpc
    | waitStop _ _ => exact ⟨h.core, by simp only [capOk, Dist.total_zeroAll]; omega, nofun⟩
    | limitedStop | limitedSeen _ _ =>
      cases hv : s.cfg.v1
      · rw [nextRound_v2 hv]; exact ⟨h.core, hle, nofun⟩
      · rw [nextRound_v1 hv]; exact ⟨h.core, hle, nofun⟩
    | wrap hp hz _ => exact absurd hz (core_consume h.core _ hp).1
    | @consume _ p _ _ hp _ hk =>
      -- the accounting is kept and a handler becomes vacant
      obtain ⟨_, hcore, htot⟩ := core_consume h.core p hp
      have vac : (s.actual.set p (s.actual.get p - 1)).total ≤ s.cfg.H := by omega
      cases hk with
      | top _ => exact afterTop_inv hcore vac
      | waitFb => exact afterWaitFb_inv hcore vac
      | limited _ => exact ⟨hcore, vac, nofun⟩
      | drain _ => exact ⟨hcore, by show capOk _ s.pc _ _; rw [hpc]; exact vac, h.nofault⟩
    | @pollItem _ p _ _ _ _ _ hP _ =>
      -- one more handler occupied, one less allotted
      have hts := Dist.total_set_pred hP.share
      refine ⟨core_deliver h.core p, ?_, hpc ▸ nofun⟩
      simp only [hpc, capOk, Dist.total_add] at hcap ⊢
      omega
    | pollDrop _ _ _ _ => exact ⟨h.core, h.cap, h.nofault⟩
    | pollClosed _ _ _ => exact ⟨h.core, hcap, nofun⟩

theorem run_inv {div : DivFn} {acts : List Act} {s s' : St} (h : Inv s) (hr : run div s acts = some s') : Inv s' :=
  run_induction step_inv h hr

theorem inflight_le_actual {s : St} (h : Inv s) : s.inflight.total ≤ s.actual.total := by
  have := h.core.tot; omega

/-- a state with nothing delivered, nothing pending and a legal control state -/
def Fresh (s : St) : Prop :=
  s.actual = [] ∧ s.inflight = [] ∧ s.pending = [] ∧ (s.pc = .calc ∨ s.pc = .top)

theorem fresh_inv {s : St} (h : Fresh s) : Inv s := by
  obtain ⟨ha, hi, hp, hpc⟩ := h
  refine ⟨by rw [ha, hi, hp]; exact ⟨fun _ => by simp, by simp, Dist.nodupKeys_nil⟩, ?_, ?_⟩
  · rw [ha]; rcases hpc with hpc | hpc <;> simp [hpc, capOk]
  · rcases hpc with hpc | hpc <;> simp [hpc]

/-- **C01 (capacity).**  From any fresh state — whatever priorities, inputs, strategic
    distribution, divider (faulty or not), version — after ANY sequence of environment and
    discipline actions the number of items handed out and not yet released is at most
    HandlersQuantity, and no unsigned subtraction of the Go code has wrapped. -/
theorem c01_capacity (div : DivFn) (s0 s : St) (acts : List Act) (h0 : Fresh s0)
    (hr : run div s0 acts = some s) :
    s.inflight.total ≤ s0.cfg.H ∧ s.pc ≠ .fault := by
  have hinv := run_inv (fresh_inv h0) hr
  have h1 := inflight_le_actual hinv
  have h2 := capOk_weaken hinv.cap
  rw [run_cfg hr] at h2
  exact ⟨by omega, hinv.nofault⟩

theorem initV2_fresh (div : DivFn) (keys : List (Nat × Bool)) (H : Nat) (s : St)
    (h : initV2 div keys H = .ok s) : Fresh s ∧ s.cfg.H = H := by
  obtain ⟨_, _, rfl⟩ := initV2_ok h
  exact ⟨⟨rfl, rfl, rfl, Or.inl rfl⟩, rfl⟩

theorem initV1_fresh (div : DivFn) (keys : List (Nat × Bool)) (H : Nat) :
    Fresh (initV1 div keys H) ∧ (initV1 div keys H).cfg.H = H :=
  ⟨⟨rfl, rfl, rfl, Or.inr rfl⟩, rfl⟩

/-- **C01 for the v2 constructor** -/
theorem c01_v2 (div : DivFn) (keys : List (Nat × Bool)) (H : Nat) (s0 s : St) (acts : List Act)
    (h0 : initV2 div keys H = .ok s0) (hr : run div s0 acts = some s) :
    s.inflight.total ≤ H ∧ s.pc ≠ .fault := by
  obtain ⟨hf, hH⟩ := initV2_fresh div keys H s0 h0
  have := c01_capacity div s0 s acts hf hr
  rw [hH] at this; exact this

/-- **C01 for the v1 constructor** (the action alphabet contains AddInput / RemoveInput /
    Stop / GracefulStop) -/
theorem c01_v1 (div : DivFn) (keys : List (Nat × Bool)) (H : Nat) (s : St) (acts : List Act)
    (hr : run div (initV1 div keys H) acts = some s) :
    s.inflight.total ≤ H ∧ s.pc ≠ .fault := by
  obtain ⟨hf, hH⟩ := initV1_fresh div keys H
  have := c01_capacity div _ s acts hf hr
  rw [hH] at this; exact this

theorem drive_is_run (div : DivFn) (fuel : Nat) (s : St) : ∃ acts, run div s acts = some (drive div fuel s) := by
  induction fuel generalizing s with
  | zero => exact ⟨[], rfl⟩
  | succ n ih =>
    simp only [drive]
    split
    · exact ⟨[], rfl⟩
    · rename_i a _
      split
      · exact ⟨[], rfl⟩
      · rename_i s' hs'
        obtain ⟨acts, hacts⟩ := ih s'
        exact ⟨a :: acts, run_cons_iff.2 ⟨s', step_sound hs', hacts⟩⟩

/-- **C01 for the simplified disciplines.**  A count `handling` that does not exceed the total
    in flight is at most H.  The number of concurrent `Handle` calls is such a count: each handler
    goroutine holds at most the one item it received and has not yet released.  (The handlers
    themselves are in the machine of `c01_simple_handlers`.) -/
theorem c01_simple (div : DivFn) (s0 s : St) (acts : List Act) (h0 : Fresh s0)
    (hr : run div s0 acts = some s) (handling : Nat) (hh : handling ≤ s.inflight.total) :
    handling ≤ s0.cfg.H := by
  have := (c01_capacity div s0 s acts h0 hr).1; omega

/-! Non-vacuity: a concrete run that fills all handlers. -/
example :
    (match initV2 (fun _ => fair) [(2, true), (1, true)] 2 with
     | .ok s0 =>
       (run (fun _ => fair) s0 [.arrive 2 7, .arrive 1 8, .calc, .pollItem, .skip, .pollItem]).map
         (fun s => (s.inflight.total, s.delivered))
     | .error _ => none) = some (2, [(2, 2, 7), (1, 1, 8)]) := by decide +kernel

end Cqos.C01
