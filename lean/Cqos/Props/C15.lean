import Cqos.Props.C01
import Cqos.Lemmas.SortDesc
import Cqos.Lemmas.AssocList
/-
  Property C15 — the divider contract is honoured and divider faults fail safe.

  * every divider call recorded in the machine's call log has a priority list that is
    strictly decreasing (sorted from highest to lowest, distinct) and a dividend
    `≤ HandlersQuantity`; the list passed by one `calcTactic` / `recalcTactic` is a sub-list of
    the priorities configured at that moment (`c15_args_sublist_calc` / `_recalc`)
    (v2: always through `safeDivide` with a non-nil map, by construction of the model);
  * a round division whose added total is neither 0 nor the dividend moves the machine to
    `drain (some dividerBad)`; from there no delivery is ever enabled again, the capacity
    bound (C01, unconditional) still holds, and the machine terminates with that error once
    the in-flight items are released;
  * v2 `New` (`prepare`) returns ErrDividerBad exactly for such a fault at creation and
    ErrHandlersQuantityTooSmall exactly when the sum is right but some configured priority's
    share is zero (the repaired check; the unrepaired one is kept as a counterexample).
-/
namespace Cqos.C15

/-- `safeDivide` rejects exactly: a non-zero total after the call whose increase differs
    from the dividend (a decrease counts as a difference) -/
theorem safeDivide_err_iff (div : List Nat → Nat → Dist → Dist) (ps : List Nat) (d : Nat) (m : Dist) :
    (safeDivide div ps d m).2 = some .dividerBad ↔
      ((div ps d m).total ≠ 0 ∧ ((div ps d m).total < m.total ∨ (div ps d m).total - m.total ≠ d)) := by
  unfold safeDivide
  simp only
  by_cases h0 : (div ps d m).total = 0
  · simp [h0]
  · simp only [h0, if_false]
    by_cases h1 : (div ps d m).total < m.total
    · simp [h1, h0]
    · simp only [h1, if_false]
      by_cases h2 : (div ps d m).total - m.total ≠ d
      · simp [h2, h0]
      · simp only [h2, if_false]; simp only [ne_eq, Decidable.not_not] at h2; simp [h0]

/-- on a zeroed map (every round division): rejected iff the added total is neither 0 nor
    the dividend -/
theorem round_division_err_iff (div : List Nat → Nat → Dist → Dist) (ps : List Nat) (d : Nat) (t : Dist) :
    (safeDivide div ps d t.zeroAll).2 = some .dividerBad ↔
      ((div ps d t.zeroAll).total ≠ 0 ∧ (div ps d t.zeroAll).total ≠ d) := by
  rw [safeDivide_err_iff]
  simp

/-- the machine has failed: it only drains feedback and terminates with the error -/
def Failed (s : St) (e : Err) : Prop := s.pc = .drain (some e) ∨ s.pc = .done (some e)

/-- **C15 (fail-safe).** Once failed, always failed — with the same error — and nothing is
    delivered any more, whatever the environment and the discipline do.  Stated for every way
    `loop` can have been left (`e = none`: normally): from `drain e` a step leads to `drain e` or
    `done e`, from `done e` nowhere. -/
theorem c15_failsafe_step {div : DivFn} {s s' : St} {a : Act} {e : Option Err} (hinv : Inv s)
    (h : s.pc = .drain e ∨ s.pc = .done e) (hs : Step div s a s') :
    (s'.pc = .drain e ∨ s'.pc = .done e) ∧ s'.delivered = s.delivered := by
  rcases h with h | h
  · cases hs with
    | own hpc ho =>
      -- only feedback is consumed in `drain`, until it exits
      rw [h] at hpc; subst hpc
      cases ho with
      | goto hg => cases hg <;> exact ⟨.inr rfl, rfl⟩
      | wrap hp hz _ => exact absurd hz (core_consume hinv.core _ hp).1
      | consume _ _ hk => cases hk; exact ⟨.inl h, rfl⟩
    | _ => exact ⟨.inl h, rfl⟩
  · exact ⟨.inr (hs.done_quiet h).1, (hs.done_quiet h).2⟩

theorem c15_failsafe_run (div : DivFn) (acts : List Act) (s s' : St) (e : Err) (hinv : Inv s) (h : Failed s e)
    (hr : run div s acts = some s') : Failed s' e ∧ s'.delivered = s.delivered := by
  refine (run_induction (I := fun t => Inv t ∧ Failed t e ∧ t.delivered = s.delivered) ?_ ⟨hinv, h, rfl⟩ hr).2
  intro t a t' ⟨hi, hf, hd⟩ ht
  have := c15_failsafe_step hi hf ht
  exact ⟨C01.step_inv hi ht, this.1, this.2.trans hd⟩

/-- **C15 (a rejected round division fails the discipline).** If `calcTactic` or
    `recalcTactic` reports an error, the next control state is `drain (some e)`. -/
theorem c15_calc_fault (div : DivFn) (s : St) (e : Err) (hle : ¬ s.cfg.H < s.actual.total)
    (hv : (calcTacticWith (div s.calls) s.prios s.actual s.strategic s.tactic (s.cfg.H - s.actual.total)).verdict = .error e) :
    Failed (stepCalc div s) e := by
  left
  simp only [stepCalc_of_le (Nat.not_lt.1 hle), hv]

theorem c15_recalc_fault (div : DivFn) (s : St) (e : Err)
    (hv : (recalcTacticWith div s.calls s.cfg.H s.prios s.actual s.tactic).verdict = .error e) :
    Failed (stepRecalc div s) e := by
  left
  simp only [stepRecalc_def, hv]

/-- the base division of a round is rejected exactly when its added total is neither 0 nor
    the number of vacant handlers -/
theorem c15_base_fault_iff (div : List Nat → Nat → Dist → Dist) (prios : List Nat)
    (actual strategic tactic : Dist) (vacants : Nat) :
    (calcBase div prios actual strategic tactic vacants).2 = .error .dividerBad ↔
      ((div (uncrowded prios actual strategic) vacants tactic.zeroAll).total ≠ 0 ∧
       (div (uncrowded prios actual strategic) vacants tactic.zeroAll).total ≠ vacants) := by
  rw [calcBase_eq, ← not_or]
  simp only
  split
  · exact ⟨nofun, fun hn => absurd ‹_› hn⟩
  · exact ⟨fun _ => ‹_›, fun _ => rfl⟩

/-- **C15 (termination after a fault).** In `drain`, with every in-flight item released:
    the pending releases can be consumed one by one, and once none is left `actual` is all
    zero and the discipline terminates with the recorded error. -/
theorem c15_drain_progress (div : DivFn) (s : St) (e : Option Err) (hinv : Inv s) (hpc : s.pc = .drain e) :
    (s.actual.allZero = true → ∃ s', step div s .exit = some s' ∧ s'.pc = .done e) ∧
    (s.actual.allZero = false → ∀ p ∈ s.pending, ∃ s', step div s (.consume p) = some s' ∧
        s'.pending.length + 1 = s.pending.length ∧ s'.pc = .drain e) ∧
    (s.inflight.total = 0 → s.pending = [] → s.actual.allZero = true) := by
  refine ⟨fun hz => ⟨_, (Step.own hpc (.goto (.exit hz))).step_eq, rfl⟩, fun hz p hp => ?_, fun hi hp => ?_⟩
  · refine ⟨_, (Step.own hpc (.consume hp (core_consume hinv.core p hp).1 (.drain hz))).step_eq, ?_, hpc⟩
    show (s.pending.erase p).length + 1 = s.pending.length
    have := List.length_pos_of_mem hp
    rw [List.length_erase_of_mem hp]; omega
  · have := hinv.core.tot
    rw [hi, hp] at this
    exact (Dist.allZero_iff_total _).2 (by simpa using this)

/-- well-formedness of the registered priorities -/
structure WF (s : St) : Prop where
  sorted : s.prios.Pairwise (· > ·)
  regs : ∀ p, p ∈ s.prios ↔ (alGet s.inputs p).isSome
  inputsNd : (alKeys s.inputs).Nodup
  /-- every recorded divider call: strictly decreasing priorities, dividend ≤ H -/
  logOK : ∀ e ∈ s.log, e.1.Pairwise (· > ·) ∧ e.2 ≤ s.cfg.H
  /-- inside `prioritize` only registered priorities are visited -/
  restSub : ∀ ph rest, s.pc = .prio ph rest → rest.Sublist s.prios

theorem WF.nodup {s : St} (h : WF s) : s.prios.Nodup :=
  nodup_of_strict _ h.sorted

theorem wf_same {s u : St} (h : WF s) (hp : u.prios = s.prios) (hi : u.inputs = s.inputs) (hl : u.log = s.log)
    (hc : u.cfg = s.cfg) (hpc : ∀ ph rest, u.pc = .prio ph rest → rest.Sublist s.prios) : WF u :=
  ⟨by rw [hp]; exact h.sorted, by rw [hp, hi]; exact h.regs, by rw [hi]; exact h.inputsNd,
   by rw [hl, hc]; exact h.logOK, by rw [hp]; exact hpc⟩

theorem calc_divArgs (f : List Nat → Nat → Dist → Dist) (prios : List Nat) (a st t : Dist) (v : Nat) :
    ∀ e ∈ (calcTacticWith f prios a st t v).divArgs, e.1.Sublist prios ∧ e.2 = v := by
  intro e he
  unfold calcTacticWith at he
  split at he
  · simp at he
  · split at he
    · simp at he
    · simp only [List.mem_singleton] at he
      subst he
      exact ⟨List.filter_sublist, rfl⟩

theorem recalc_divArgs (div : DivFn) (i H : Nat) (prios : List Nat) (a t : Dist) :
    ∀ e ∈ (recalcTacticWith div i H prios a t).divArgs, e.1.Sublist prios ∧ (e.2 = H ∨ e.2 = t.total) := by
  intro e he
  unfold recalcTacticWith at he
  simp only at he
  split at he
  · simp only [List.mem_singleton] at he; subst he; exact ⟨List.filter_sublist, Or.inl rfl⟩
  · split at he <;>
    · simp only [List.mem_cons, List.not_mem_nil, or_false] at he
      rcases he with rfl | rfl
      · exact ⟨List.filter_sublist, Or.inl rfl⟩
      · exact ⟨List.filter_sublist, Or.inr rfl⟩

theorem WF.logOK_append {s : St} (h : WF s) {l : List (List Nat × Nat)}
    (hl : ∀ e ∈ l, e.1.Sublist s.prios ∧ e.2 ≤ s.cfg.H) :
    ∀ e ∈ s.log ++ l, e.1.Pairwise (· > ·) ∧ e.2 ≤ s.cfg.H := fun e he =>
  (List.mem_append.1 he).elim (h.logOK e) fun he => ⟨List.Pairwise.sublist (hl e he).1 h.sorted, (hl e he).2⟩

theorem wf_stepCalc {div : DivFn} {s : St} (h : WF s) : WF (stepCalc div s) := by
  have hlog := h.logOK_append fun e he =>
    have := calc_divArgs (div s.calls) s.prios s.actual s.strategic s.tactic (s.cfg.H - s.actual.total) e he
    ⟨this.1, this.2 ▸ Nat.sub_le _ _⟩
  fun_cases stepCalc div s
  case case1 | case2 => exact wf_same h rfl rfl rfl rfl nofun
  case case3 => exact ⟨h.sorted, h.regs, h.inputsNd, hlog, fun _ _ e => by cases e; exact .refl _⟩
  case case4 | case5 => exact ⟨h.sorted, h.regs, h.inputsNd, hlog, nofun⟩

theorem wf_stepRecalc {div : DivFn} {s : St} (h : WF s) (hcap : s.tactic.total ≤ s.cfg.H) : WF (stepRecalc div s) := by
  have hlog := h.logOK_append fun e he =>
    have := recalc_divArgs div s.calls s.cfg.H s.prios s.actual s.tactic e he
    ⟨this.1, this.2.elim (fun e => e ▸ Nat.le_refl _) (fun e => e ▸ hcap)⟩
  fun_cases stepRecalc div s
  case case1 => exact ⟨h.sorted, h.regs, h.inputsNd, hlog, fun _ _ e => by cases e; exact .refl _⟩
  case case2 => exact ⟨h.sorted, h.regs, h.inputsNd, hlog, fun _ _ e => by cases e; exact List.nil_sublist _⟩
  case case3 => exact ⟨h.sorted, h.regs, h.inputsNd, hlog, nofun⟩

/-- after `AddInput` / `RemoveInput`: new priorities `P`, new inputs, one more divider call -/
theorem wf_restrategize {div : DivFn} {s u : St} {P : List Nat} (h : WF s) (hP : P.Pairwise (· > ·))
    (hregs : ∀ q, q ∈ P ↔ (alGet u.inputs q).isSome) (hnd : (alKeys u.inputs).Nodup) (hlog : u.log = s.log)
    (hcfg : u.cfg = s.cfg) : WF (afterTop (restrategize div u P)) :=
  ⟨hP, hregs, hnd, fun e he => by
    rcases List.mem_append.1 he with he | he
    · exact (show u.cfg = s.cfg from hcfg) ▸ h.logOK e (hlog ▸ he)
    · cases List.mem_singleton.1 he; exact ⟨hP, hcfg ▸ Nat.le_refl _⟩,
   nofun⟩

theorem wf_step {div : DivFn} {s s' : St} {a : Act} (hinv : Inv s) (h : WF s) (hs : Step div s a s') : WF s' := by
  cases hs with
  | arrive _ _ | close _ | release _ | stop _ | graceful _ => exact wf_same h rfl rfl rfl rfl h.restSub
  | own hpc ho =>
    have tail : ∀ {ph p rest}, s.pc = .prio ph (p :: rest) → rest.Sublist s.prios := fun e =>
      (List.sublist_cons_self _ _).trans (h.restSub _ _ e)
    cases ho with
    | goto hg =>
      refine wf_same h rfl rfl rfl rfl ?_
      cases hg with
      | skip _ | pollEmpty _ _ | pollStop _ _ _ => intro _ _ e; cases e; exact tail hpc
      | _ => nofun
    | consume _ _ hk =>
      cases hk with
      | waitFb =>
        rw [afterWaitFb_eq]
        refine wf_same h rfl rfl rfl rfl fun ph rest e => ?_
        rcases afterWaitFb_pc _ with e' | e' <;> rw [e'] at e <;> cases e
        exact List.Sublist.refl _
      | top _ | limited _ => exact wf_same h rfl rfl rfl rfl nofun
      | drain _ => exact wf_same h rfl rfl rfl rfl fun _ _ e => nomatch hpc.symm.trans e
    | @topAdd p c b _ =>
      have hnd := h.nodup
      refine wf_restrategize h (sortDesc_strict _ ?_) (fun q => ?_) (nodup_alSet s.inputs p _ h.inputsNd) rfl rfl
      · split
        · exact hnd
        · rename_i hex
          exact List.nodup_append.2 ⟨hnd, by simp, fun a ha b hb hab => by
            cases List.mem_singleton.1 hb; exact hex ((h.regs p).1 (hab ▸ ha))⟩
      · show q ∈ sortDesc _ ↔ (alGet (alSet s.inputs p _) q).isSome
        rw [mem_sortDesc, alGet_alSet_isSome, ← h.regs q]
        split
        · rename_i hex; exact ⟨.inl, fun e => e.elim id fun e => e ▸ (h.regs p).2 hex⟩
        · simp only [List.mem_append, List.mem_singleton]
    | @topRemove p _ =>
      refine wf_restrategize h (h.sorted.sublist List.filter_sublist) (fun q => ?_) (nodup_alErase s.inputs p h.inputsNd) rfl rfl
      show q ∈ s.prios.filter _ ↔ (alGet (alErase s.inputs p) q).isSome
      rw [alGet_alErase _ _ _ h.inputsNd, List.mem_filter, h.regs q]
      by_cases hq : p = q
      · subst hq; simp
      · have hqp : ¬ q = p := fun e => hq e.symm
        simp [hq, hqp]
    | wrap _ _ _ | topNone _ => exact wf_same h rfl rfl rfl rfl nofun
    | «calc» => exact wf_stepCalc h
    | recalc =>
      have := hinv.cap; rw [hpc] at this
      exact wf_stepRecalc h (by simp only [capOk] at this; omega)
    | waitStop _ _ =>
      exact wf_same h rfl rfl rfl rfl fun _ _ e => by cases e; exact List.Sublist.refl _
    | limitedStop | limitedSeen _ _ =>
      exact wf_same h rfl rfl rfl rfl fun _ _ e => by rcases nextRound_pc s with e' | e' <;> rw [e'] at e <;> cases e
    | pollItem _ _ | pollDrop _ _ _ _ => exact wf_same h rfl rfl rfl rfl h.restSub
    | @pollClosed _ p _ inp _ hP _ _ =>
      refine ⟨h.sorted, fun q => ?_, nodup_alSet s.inputs p _ h.inputsNd, h.logOK, fun _ _ e => by cases e; exact tail hpc⟩
      show q ∈ s.prios ↔ (alGet (alSet s.inputs p _) q).isSome
      rw [alGet_alSet_isSome, ← h.regs q]
      exact ⟨.inl, fun e => e.elim id fun e => e ▸ (h.regs p).2 (by rw [hP.input]; rfl)⟩

theorem wf_run {div : DivFn} {acts : List Act} {s s' : St} (hinv : Inv s) (h : WF s) (hr : run div s acts = some s') :
    WF s' :=
  (run_induction (I := fun t => Inv t ∧ WF t) (fun hi ht => ⟨C01.step_inv hi.1 ht, wf_step hi.1 hi.2 ht⟩) ⟨hinv, h⟩ hr).2

theorem alKeys_mkInputs (keys : List (Nat × Bool)) : alKeys (mkInputs keys).1 = keys.map (·.1) := by
  simp [mkInputs, alKeys, List.map_map, Function.comp_def]

/-- what either constructor returns: the keys sorted, their inputs, one divider call logged -/
theorem wf_mkInputs {keys : List (Nat × Bool)} (hnd : (keys.map (·.1)).Nodup) {s : St}
    (hp : s.prios = sortDesc (keys.map (·.1))) (hi : s.inputs = (mkInputs keys).1)
    (hl : s.log = [(sortDesc (keys.map (·.1)), s.cfg.H)]) (hpc : ∀ ph rest, s.pc ≠ .prio ph rest) : WF s := by
  refine ⟨hp ▸ sortDesc_strict _ hnd, fun p => ?_, by rw [hi, alKeys_mkInputs]; exact hnd, fun e he => ?_,
    fun ph rest e => absurd e (hpc ph rest)⟩
  · rw [hp, hi, mem_sortDesc, alGet_isSome_iff, alKeys_mkInputs]
  · rw [hl] at he
    cases List.mem_singleton.1 he
    exact ⟨sortDesc_strict _ hnd, Nat.le_refl _⟩

theorem wf_initV2 (div : DivFn) (keys : List (Nat × Bool)) (H : Nat) (s : St) (hnd : (keys.map (·.1)).Nodup)
    (h : initV2 div keys H = .ok s) : WF s := by
  obtain ⟨_, _, rfl⟩ := initV2_ok h
  exact wf_mkInputs hnd rfl rfl rfl nofun

theorem wf_initV1 (div : DivFn) (keys : List (Nat × Bool)) (H : Nat) (hnd : (keys.map (·.1)).Nodup) :
    WF (initV1 div keys H) :=
  wf_mkInputs hnd rfl rfl rfl nofun

/-- **C15 (argument contract, v2).** After any run of a v2 discipline every divider call that
    was ever made received a strictly decreasing (sorted high to low, distinct) list of
    priorities and a dividend not exceeding HandlersQuantity. -/
theorem c15_args_v2 (div : DivFn) (keys : List (Nat × Bool)) (H : Nat) (hnd : (keys.map (·.1)).Nodup)
    (s0 s : St) (acts : List Act) (h0 : initV2 div keys H = .ok s0) (hr : run div s0 acts = some s) :
    ∀ e ∈ s.log, e.1.Pairwise (· > ·) ∧ e.2 ≤ H := by
  obtain ⟨hf, hH⟩ := C01.initV2_fresh div keys H s0 h0
  have := (wf_run (C01.fresh_inv hf) (wf_initV2 div keys H s0 hnd h0) hr).logOK
  rw [run_cfg hr, hH] at this; exact this

/-- **C15 (argument contract, v1)** — across AddInput / RemoveInput / Stop. -/
theorem c15_args_v1 (div : DivFn) (keys : List (Nat × Bool)) (H : Nat) (hnd : (keys.map (·.1)).Nodup)
    (s : St) (acts : List Act) (hr : run div (initV1 div keys H) acts = some s) :
    ∀ e ∈ s.log, e.1.Pairwise (· > ·) ∧ e.2 ≤ H := by
  obtain ⟨hf, hH⟩ := C01.initV1_fresh div keys H
  have := (wf_run (C01.fresh_inv hf) (wf_initV1 div keys H hnd) hr).logOK
  rw [run_cfg hr, hH] at this; exact this

/-- every call's priorities are among the priorities configured at that moment: the lists
    are sub-lists (filters) of the registered priority list -/
theorem c15_args_sublist_calc (f : List Nat → Nat → Dist → Dist) (prios : List Nat) (a st t : Dist) (v : Nat) :
    ∀ e ∈ (calcTacticWith f prios a st t v).divArgs, e.1.Sublist prios := fun e he => (calc_divArgs f prios a st t v e he).1

theorem c15_args_sublist_recalc (div : DivFn) (i H : Nat) (prios : List Nat) (a t : Dist) :
    ∀ e ∈ (recalcTacticWith div i H prios a t).divArgs, e.1.Sublist prios := fun e he => (recalc_divArgs div i H prios a t e he).1

/-- **C15 (New returns ErrDividerBad exactly for a fault at creation).** -/
theorem c15_new_divider_bad (div : List Nat → Nat → Dist → Dist) (keys : List Nat) (H : Nat) :
    prepareV2 div keys H = .error .dividerBad ↔
      ((div (sortDesc keys) H []).total ≠ 0 ∧ (div (sortDesc keys) H []).total ≠ H) := by
  rw [prepareV2_eq, ← not_or]
  simp only
  split
  · refine ⟨fun e => ?_, fun hn => absurd ‹_› hn⟩
    split at e <;> cases e
  · exact ⟨fun _ => ‹_›, fun _ => rfl⟩

/-- **C15 (New rejects exactly the configurations in which some priority's share is zero)**
    — given that the division itself passed the sum check. -/
theorem c15_new_too_small (div : List Nat → Nat → Dist → Dist) (keys : List Nat) (H : Nat) :
    prepareV2 div keys H = .error .tooSmall ↔
      ((safeDivide div (sortDesc keys) H []).2 = none ∧ ∃ p ∈ sortDesc keys, (div (sortDesc keys) H []).get p = 0) := by
  rw [prepareV2_eq, safeDivide_eq, Dist.total_nil, Nat.zero_add]
  simp only
  split
  · split
    · rename_i hf
      exact ⟨nofun, fun ⟨_, p, hp, hz⟩ => by have := (filledFor_iff _ _).1 hf p hp; omega⟩
    · rename_i hf
      refine ⟨fun _ => ⟨rfl, Classical.byContradiction fun hn => hf ((filledFor_iff _ _).2 fun p hp => ?_)⟩, fun _ => rfl⟩
      exact Nat.one_le_iff_ne_zero.2 fun hz => hn ⟨p, hp, hz⟩
  · exact ⟨nofun, fun h => nomatch h.1⟩

/-- Defect D2 kept as a decided fact about the UNREPAIRED `prepare`: a divider that leaves
    the key of a listed priority absent slipped through. -/
theorem c15_unfixed_counterexample :
    (prepareV2Unfixed (fun ps d m => match ps with | p :: _ => m.add p d | [] => m) [2, 1] 3).isOk = true ∧
    prepareV2 (fun ps d m => match ps with | p :: _ => m.add p d | [] => m) [2, 1] 3 = .error .tooSmall :=
  ⟨rfl, rfl⟩

/-! Non-vacuity: a faulty second round division stops the deliveries. -/
example :
    (match initV2 (fun i ps d m => if i = 1 then (fair ps d m).add 2 5 else fair ps d m) [(2, true), (1, true)] 2 with
     | .ok s0 =>
       (run (fun i ps d m => if i = 1 then (fair ps d m).add 2 5 else fair ps d m) s0
          [.arrive 2 7, .calc, .pollItem, .skip, .pollEmpty, .recalc]).map (fun s => s.pc)
     | .error _ => none) = some (.drain (some .dividerBad)) := by decide +kernel

end Cqos.C15
