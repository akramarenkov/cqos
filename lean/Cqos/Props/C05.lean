import Cqos.Props.C15
import Cqos.Props.C14
import Cqos.Lemmas.V2
/-
  Property C05 — under saturation each priority holds exactly its divider share.

  The scheduler machine, a divider that is additive, call-independent and obeys the sum rule
  (`WellBehaved`: Fair and Rate are instances), strategic = the divider's distribution of H
  over all configured priorities, and a SATURATED run: no poll ever finds an input empty or
  closed (`pollEmpty` / `pollClosed` never occur).  The claims hold for every such action list —
  every order, grouping and timing of releases — of a v2 discipline (`c05_share`, `c05_full`) and
  of a v1 discipline that is neither stopped nor reconfigured (`c05_share_v1`, `c05_full_v1`).
-/
namespace Cqos.C05

/-- additive, call-independent, sum-preserving divider -/
structure WellBehaved (div : DivFn) : Prop where
  additive : ∀ i ps d m k, (div i ps d m).get k = m.get k + (div 0 ps d []).get k
  sum : ∀ i ps d m, (ps ≠ [] ∨ d = 0) → (div i ps d m).total = m.total + d
  nodup : ∀ i ps d m, m.NodupKeys → (div i ps d m).NodupKeys

/-- the saturation invariant; `P`, `S` are the (static) priorities and strategic distribution -/
structure SatInv (P : List Nat) (S : Dist) (s : St) : Prop where
  pr : s.prios = P
  strat : s.strategic = S
  /-- not stopped (in v2 `stopped` is never set; in v1 saturated runs exclude Stop/cancel) -/
  ns : s.stopped = false
  le : ∀ p, s.actual.get p ≤ S.get p
  akeys : ∀ k, k ∉ P → s.actual.get k = 0
  tnd : s.tactic.NodupKeys
  undrained : ∀ p inp, alGet s.inputs p = some inp → inp.drained = false
  ph1 : ∀ rest, s.pc = .prio 1 rest →
      (∀ p ∈ P, s.actual.get p + s.tactic.get p = S.get p) ∧ (∀ p, p ∉ rest → s.tactic.get p = 0)
  ph2 : ∀ ph rest, s.pc = .prio ph rest → ph ≠ 1 → ∀ p, s.tactic.get p = 0
  wait : s.pc = .waitFb → s.actual.total = s.cfg.H

/-- the control states of which `SatInv` says something beyond the maps -/
def inRound : Pc → Bool
  | .prio _ _ | .waitFb => true
  | _ => false

/-- frame; `le` and `akeys` are downward closed in `actual`, so it may shrink -/
theorem sat_plain {P : List Nat} {S : Dist} {s u : St} (h : SatInv P S s) (hp : u.prios = s.prios)
    (hs : u.strategic = s.strategic) (hst' : u.stopped = s.stopped) (ha : ∀ q, u.actual.get q ≤ s.actual.get q)
    (ht : u.tactic = s.tactic) (hi : u.inputs = s.inputs) (hpc : inRound u.pc = false) : SatInv P S u :=
  ⟨by rw [hp]; exact h.pr, by rw [hs]; exact h.strat, by rw [hst']; exact h.ns, fun q => Nat.le_trans (ha q) (h.le q),
   fun k hk => Nat.le_zero.1 (h.akeys k hk ▸ ha k), by rw [ht]; exact h.tnd, by rw [hi]; exact h.undrained,
   fun rest hr => (by rw [hr] at hpc; cases hpc), fun ph rest hr _ => (by rw [hr] at hpc; cases hpc),
   fun hw => (by rw [hw] at hpc; cases hpc)⟩

theorem total_actual_eq {P : List Nat} {S : Dist} {s : St} (h : SatInv P S s) (hinv : Inv s) (hP : P.Nodup) :
    s.actual.total = sumOver P s.actual := total_eq_sumOver P hP s.actual hinv.core.nd h.akeys

/-- `calcTactic` under saturation: either every handler is busy (wait), or the allotment is
    exactly `strategic − actual` -/
theorem sat_calc (div : DivFn) {P : List Nat} {S : Dist} {s : St} (h : SatInv P S s) (hinv : Inv s) (hP : P.Nodup)
    (hsum : sumOver P S = s.cfg.H) : SatInv P S (stepCalc div s) := by
  have hle : s.actual.total ≤ s.cfg.H := capOk_weaken hinv.cap
  have htot := total_actual_eq h hinv hP
  simp only [stepCalc_of_le hle]
  by_cases hv : s.cfg.H - s.actual.total = 0
  · -- no vacant handler
    simp only [calcTacticWith, if_pos hv]
    exact ⟨h.pr, h.strat, h.ns, h.le, h.akeys, h.tnd, h.undrained, fun rest hr => by simp at hr,
      fun ph rest hr => by simp at hr, fun _ => Nat.le_antisymm hle (Nat.sub_eq_zero_iff_le.1 hv)⟩
  · obtain ⟨t', hr, h2, h3, h4⟩ := calcTacticWith_addUp (div s.calls) P s.actual S s.tactic _ (fun p _ => h.le p) hv
      (by omega)
    rw [← h.pr, ← h.strat] at hr
    simp only [hr]
    refine ⟨h.pr, h.strat, h.ns, h.le, h.akeys, h4 h.tnd, h.undrained, ?_, ?_, fun hw => by simp at hw⟩
    · intro rest hr
      simp only [Pc.prio.injEq, true_and] at hr
      subst hr
      exact ⟨fun p hp => by show s.actual.get p + t'.get p = S.get p; rw [h2 p hp]; exact Nat.add_sub_cancel' (h.le p),
        fun p hp => h3 p (h.pr ▸ hp)⟩
    · intro ph rest hr hne
      simp only [Pc.prio.injEq] at hr
      exact absurd hr.1.symm hne

/-- `recalcTactic` under saturation: nothing is left to redistribute -/
theorem sat_recalc (div : DivFn) (hwb : WellBehaved div) {P : List Nat} {S : Dist} {s : St} (h : SatInv P S s)
    (hS : S = div 0 P s.cfg.H []) (hPne : P ≠ []) (hpc : s.pc = .prio 1 []) : SatInv P S (stepRecalc div s) := by
  obtain ⟨hbal, hzero⟩ := h.ph1 [] hpc
  have hz : ∀ p, s.tactic.get p = 0 := fun p => hzero p (by simp)
  have hrem : s.tactic.total = 0 := Dist.total_zero_of_get_zero _ h.tnd hz
  have hu1 : useful1 s.prios s.tactic = P := by
    rw [h.pr]; exact List.filter_eq_self.2 (fun p _ => by simp [hz p])
  -- the first division yields the strategic distribution again: nobody is below it, and the
  -- second divides nothing among nobody
  have hu2 : useful2 s.prios s.actual (div s.calls P s.cfg.H s.tactic.zeroAll) = [] := by
    rw [h.pr]
    refine List.filter_eq_nil_iff.2 fun p hp => ?_
    have := hbal p hp
    rw [hz p, Nat.add_zero] at this
    rw [hwb.additive, ← hS, Dist.get_zeroAll, Nat.zero_add, this]
    simp
  have hr := recalcTacticWith_ok (div := div) (i := s.calls) (H := s.cfg.H) (prios := s.prios) (actual := s.actual)
    (tactic := s.tactic) rfl (Or.inl (by rw [hu1, hwb.sum _ _ _ _ (Or.inl hPne)]; simp)) rfl
    (Or.inr (by rw [hu1, hu2, hrem, hwb.sum _ _ _ _ (Or.inr rfl)]; simp))
  rw [hu1, hu2, hrem] at hr
  simp only [stepRecalc_def, hr, filledFor, List.all_nil]
  refine ⟨h.pr, h.strat, h.ns, h.le, h.akeys, ?_, h.undrained, fun rest hr' => by simp at hr', ?_, fun hw => by simp at hw⟩
  · exact hwb.nodup _ _ _ _ (Dist.nodupKeys_zeroAll _ (hwb.nodup _ _ _ _ (Dist.nodupKeys_zeroAll _ h.tnd)))
  · intro ph rest _ _ p
    have h0 := hwb.sum (s.calls + 1) [] 0 (div s.calls P s.cfg.H s.tactic.zeroAll).zeroAll (Or.inr rfl)
    have := Dist.get_le_total (div (s.calls + 1) [] 0 (div s.calls P s.cfg.H s.tactic.zeroAll).zeroAll) p
    rw [Dist.total_zeroAll] at h0
    rw [h0] at this
    exact Nat.le_zero.1 this

/-- saturated: no poll finds its input empty or closed; and (v1) the run contains no
    Stop/cancel and no AddInput/RemoveInput — the set of priorities and the shares are those of
    the creation -/
def SatAct (a : Act) : Prop :=
  a ≠ .pollEmpty ∧ a ≠ .pollClosed ∧ a ≠ .stop ∧ a ≠ .top .stop ∧
  (∀ p c b, a ≠ .top (.add p c b)) ∧ (∀ p, a ≠ .top (.remove p))

theorem sat_step (div : DivFn) (hwb : WellBehaved div) (P : List Nat) (S : Dist) (s s' : St) (a : Act)
    (hinv : Inv s) (hw : C15.WF s) (h : SatInv P S s) (hP : P.Nodup) (hsum : sumOver P S = s.cfg.H)
    (hS : S = div 0 P s.cfg.H []) (hPne : P ≠ []) (hsat : SatAct a) (hs : step div s a = some s') : SatInv P S s' := by
  have hns := h.ns
  have dec : ∀ p q, (s.actual.set p (s.actual.get p - 1)).get q ≤ s.actual.get q := by
    intro p q
    rw [Dist.get_set]
    split
    · rename_i e; subst e; exact Nat.sub_le _ _
    · exact Nat.le_refl _
  cases step_sound hs with
  | arrive _ _ | close _ | release _ | graceful _ =>
    exact ⟨h.pr, h.strat, h.ns, h.le, h.akeys, h.tnd, h.undrained, h.ph1, h.ph2, h.wait⟩
  | stop _ => exact absurd rfl hsat.2.2.1
  | own hpc ho =>
    cases ho with
    | goto hg =>
      cases hg with
      | topStop _ _ => exact absurd rfl hsat.2.2.2.1
      | endDrain _ _ _ _ | endLimited _ _ | exit _ =>
        exact sat_plain h rfl rfl rfl (fun _ => Nat.le_refl _) rfl rfl rfl
      | pollEmpty _ _ => exact absurd rfl hsat.1
      | pollStop _ _ hst | drainStop _ hst => rw [hns] at hst; cases hst
      | @skip ph p rest hsk =>
        -- a registered, undrained priority is passed over only without allotment
        have hpin : p ∈ s.prios := (hw.restSub ph (p :: rest) hpc).subset (by simp)
        obtain ⟨inp, hin⟩ := Option.isSome_iff_exists.1 ((hw.regs p).1 hpin)
        have htz : s.tactic.get p = 0 := (hsk inp hin).resolve_left (by rw [h.undrained p inp hin]; nofun)
        refine ⟨h.pr, h.strat, h.ns, h.le, h.akeys, h.tnd, h.undrained, ?_, ?_, nofun⟩
        · intro rest' hr
          cases hr
          obtain ⟨hb, hz⟩ := h.ph1 (p :: rest) hpc
          refine ⟨hb, fun q hq => ?_⟩
          by_cases hqp : q = p
          · subst hqp; exact htz
          · exact hz q (by simp [hqp, hq])
        · intro ph' rest' hr hne q
          cases hr
          exact h.ph2 ph (p :: rest) hpc hne q
    | wrap hp hz _ => exact absurd hz (core_consume hinv.core _ hp).1
    | @consume _ p _ _ _ _ hk =>
      cases hk with
      | top _ =>
        refine sat_plain h rfl rfl rfl (fun q => ?_) rfl rfl rfl
        show (clearActual s.inputs (s.actual.set p (s.actual.get p - 1))).get q ≤ _
        rw [get_clearActual _ _ (Dist.nodupKeys_set _ _ _ hinv.core.nd)]
        exact dec p q
      | waitFb =>
        rw [afterWaitFb_running _ (fun hc => by rw [show _ = false from hns] at hc; cases hc.2)]
        exact sat_plain h rfl rfl rfl (dec p) rfl rfl rfl
      | limited _ => exact sat_plain h rfl rfl rfl (dec p) rfl rfl rfl
      | drain _ => exact sat_plain h rfl rfl rfl (dec p) rfl rfl (congrArg inRound hpc)
    | topAdd _ => exact absurd rfl (hsat.2.2.2.2.1 _ _ _)
    | topRemove _ => exact absurd rfl (hsat.2.2.2.2.2 _)
    | topNone _ =>
      exact sat_plain h rfl rfl rfl (fun q => Nat.le_of_eq (get_clearActual _ _ hinv.core.nd q)) rfl rfl rfl
    | «calc» => exact sat_calc div h hinv hP hsum
    | recalc => exact sat_recalc div hwb h hS hPne hpc
    | waitStop _ hst | limitedSeen _ hst | pollDrop _ _ _ hst => rw [hns] at hst; cases hst
    | pollClosed _ _ _ => exact absurd rfl hsat.2.1
    | limitedStop =>
      exact sat_plain h rfl rfl rfl (fun _ => Nat.le_refl _) rfl rfl
        (by rcases nextRound_pc s with e | e <;> exact congrArg inRound e)
    | @pollItem ph p rest _ _ _ _ hP _ =>
      have hpin : p ∈ P := by rw [← h.pr]; exact (hw.restSub ph (p :: rest) hpc).subset (by simp)
      have hph : ph = 1 := Decidable.not_not.1 fun e => hP.share (h.ph2 ph (p :: rest) hpc e p)
      subst hph
      obtain ⟨hb, hz⟩ := h.ph1 (p :: rest) hpc
      have hbp := hb p hpin
      have htp := hP.share
      refine ⟨h.pr, h.strat, h.ns, ?_, ?_, Dist.nodupKeys_set _ _ _ h.tnd, h.undrained, ?_, ?_,
        fun hw' => nomatch hpc.symm.trans hw'⟩
      · intro r
        rw [Dist.get_add]
        split
        · rename_i e; subst e; omega
        · exact h.le r
      · intro k hk
        rw [Dist.get_add, if_neg (fun e : p = k => hk (e ▸ hpin))]
        exact h.akeys k hk
      · intro rest' hr
        cases hpc.symm.trans hr
        refine ⟨fun r hr => ?_, fun r hr => ?_⟩
        · rw [Dist.get_add, Dist.get_set]
          split
          · rename_i e; subst e; omega
          · exact hb r hr
        · rw [Dist.get_set, if_neg (fun e : p = r => hr (by simp [e]))]
          exact hz r hr
      · intro ph' rest' hr hne
        cases hpc.symm.trans hr
        exact absurd rfl hne

/-- decidable form of `SatAct` -/
def satActB : Act → Bool
  | .pollEmpty => false
  | .pollClosed => false
  | .stop => false
  | .top .stop => false
  | .top (.add _ _ _) => false
  | .top (.remove _) => false
  | _ => true

theorem satAct_of_satActB (a : Act) (h : satActB a = true) : SatAct a :=
  ⟨fun e => (by subst e; cases h), fun e => (by subst e; cases h), fun e => (by subst e; cases h),
   fun e => (by subst e; cases h), fun _ _ _ e => (by subst e; cases h), fun _ e => (by subst e; cases h)⟩

def satRun (div : DivFn) (s : St) : List Act → Option St
  | [] => some s
  | a :: as =>
    if satActB a = false then none
    else match step div s a with
      | some s' => satRun div s' as
      | none => none

theorem sat_run (div : DivFn) (hwb : WellBehaved div) (P : List Nat) (S : Dist) (acts : List Act) (s s' : St)
    (hinv : Inv s) (hw : C15.WF s) (h : SatInv P S s) (hP : P.Nodup) (hsum : sumOver P S = s.cfg.H)
    (hS : S = div 0 P s.cfg.H []) (hPne : P ≠ []) (hr : satRun div s acts = some s') :
    SatInv P S s' ∧ Inv s' ∧ s'.cfg = s.cfg := by
  induction acts generalizing s with
  | nil => cases hr; exact ⟨h, hinv, rfl⟩
  | cons a as ih =>
    simp only [satRun] at hr
    split at hr
    · cases hr
    · rename_i hsat
      split at hr
      · rename_i s1 hs1
        have ht := step_sound hs1
        have hc := ht.cfg_eq
        obtain ⟨r1, r2, r3⟩ := ih s1 (C01.step_inv hinv ht) (C15.wf_step hinv hw ht)
          (sat_step div hwb P S s s1 a hinv hw h hP hsum hS hPne (satAct_of_satActB a (by simpa using hsat)) hs1)
          (by rw [hc]; exact hsum) (by rw [hc]; exact hS) hr
        exact ⟨r1, r2, r3.trans hc⟩
      · cases hr

theorem sat_initV2 {div : DivFn} {keys : List (Nat × Bool)} {H : Nat} {s0 : St} (h0 : initV2 div keys H = .ok s0) :
    SatInv s0.prios s0.strategic s0 := by
  obtain ⟨_, _, rfl⟩ := initV2_ok h0
  exact ⟨rfl, rfl, rfl, fun p => by simp [emptySt], fun k _ => by simp [emptySt], by simp [emptySt, Dist.NodupKeys],
    fun p inp hp => (alGet_mkInputs keys p inp hp).1 ▸ rfl, nofun, nofun, nofun⟩

theorem SatInv.share {P : List Nat} {S : Dist} {s : St} (hs : SatInv P S s) (hinv : Inv s) (p : Nat) :
    s.inflight.get p ≤ S.get p := by
  have := hs.le p
  have := hinv.core.perKey p
  omega

theorem SatInv.exact {P : List Nat} {S : Dist} {s : St} (hs : SatInv P S s) (hinv : Inv s) (hP : P.Nodup)
    (hfull : s.actual.total = sumOver P S) (hpend : s.pending = []) : ∀ p ∈ P, s.inflight.get p = S.get p := by
  intro p hp
  have heq := eq_of_sum_eq_of_le _ s.actual _ (fun q _ => hs.le q) (by rw [← total_actual_eq hs hinv hP, hfull]) p hp
  have := hinv.core.perKey p
  rw [hpend] at this
  exact this.symm.trans heq

theorem sat_run_initV2 (div : DivFn) (hwb : WellBehaved div) (keys : List (Nat × Bool)) (H : Nat)
    (hnd : (keys.map (·.1)).Nodup) (hne : keys ≠ []) (s0 s : St) (acts : List Act) (h0 : initV2 div keys H = .ok s0)
    (hsum : sumOver s0.prios s0.strategic = H) (hr : satRun div s0 acts = some s) :
    SatInv s0.prios s0.strategic s ∧ Inv s ∧ s.cfg.H = H := by
  obtain ⟨hf, hH⟩ := C01.initV2_fresh div keys H s0 h0
  have hw := C15.wf_initV2 div keys H s0 hnd h0
  obtain ⟨hS, hPne⟩ : s0.strategic = div 0 s0.prios s0.cfg.H [] ∧ s0.prios ≠ [] := by
    obtain ⟨_, _, rfl⟩ := initV2_ok h0
    exact ⟨rfl, sortDesc_ne_nil _ (by simpa using hne)⟩
  obtain ⟨hs, hinv, hc⟩ := sat_run div hwb _ _ acts s0 s (C01.fresh_inv hf) hw (sat_initV2 h0) hw.nodup
    (by rw [hH]; exact hsum) hS hPne hr
  exact ⟨hs, hinv, by rw [hc, hH]⟩

/-- **C05 (never above the share).** In every saturated run of a v2 discipline with a
    well-behaved divider, the in-flight count of each priority never exceeds the share the
    divider assigns to it for (all configured priorities, H). -/
theorem c05_share (div : DivFn) (hwb : WellBehaved div) (keys : List (Nat × Bool)) (H : Nat)
    (hnd : (keys.map (·.1)).Nodup) (hne : keys ≠ []) (s0 s : St) (acts : List Act)
    (h0 : initV2 div keys H = .ok s0)
    (hsum : sumOver (sortDesc (keys.map (·.1))) (div 0 (sortDesc (keys.map (·.1))) H []) = H)
    (hr : satRun div s0 acts = some s) (p : Nat) :
    s.inflight.get p ≤ (div 0 (sortDesc (keys.map (·.1))) H []).get p := by
  obtain ⟨_, _, rfl⟩ := initV2_ok h0
  obtain ⟨hs, hinv, _⟩ := sat_run_initV2 div hwb keys H hnd hne _ s acts h0 hsum hr
  exact hs.share hinv p

/-- **C05 (all handlers occupied).** Whenever the discipline waits for a release, all H
    handlers are accounted busy; with no release outstanding every priority holds exactly
    its share. -/
theorem c05_full (div : DivFn) (hwb : WellBehaved div) (keys : List (Nat × Bool)) (H : Nat)
    (hnd : (keys.map (·.1)).Nodup) (hne : keys ≠ []) (s0 s : St) (acts : List Act)
    (h0 : initV2 div keys H = .ok s0)
    (hsum : sumOver (sortDesc (keys.map (·.1))) (div 0 (sortDesc (keys.map (·.1))) H []) = H)
    (hr : satRun div s0 acts = some s) (hwait : s.pc = .waitFb) :
    s.actual.total = H ∧
    (s.pending = [] → ∀ p ∈ sortDesc (keys.map (·.1)),
        s.inflight.get p = (div 0 (sortDesc (keys.map (·.1))) H []).get p) := by
  obtain ⟨_, _, rfl⟩ := initV2_ok h0
  obtain ⟨hs, hinv, hH⟩ := sat_run_initV2 div hwb keys H hnd hne _ s acts h0 hsum hr
  have htot : s.actual.total = H := by rw [hs.wait hwait, hH]
  exact ⟨htot, hs.exact hinv (nodup_of_strict _ (sortDesc_strict _ hnd)) (by rw [htot, hsum])⟩

theorem wellBehaved_of_adds (f : List Nat → Nat → Dist → Dist) (incs : List Nat → Nat → List Nat)
    (hadds : ∀ ps d m, AddsAlong ps (incs ps d) m (f ps d m)) (hc : Conserves f) :
    WellBehaved (fun _ => f) :=
  ⟨fun _ ps d m k => (hadds ps d m).additive (hadds ps d []) k,
   fun _ ps d m h => by rw [hc]; rcases h with h | rfl <;> simp [*],
   fun _ ps d m => (hadds ps d m).nodup⟩

theorem wellBehaved_fair : WellBehaved (fun _ => fair) :=
  wellBehaved_of_adds fair _ fair_adds conserves_fair

theorem wellBehaved_rate : WellBehaved (fun _ => rate) :=
  wellBehaved_of_adds rate _ (fun ps d m => C14.rate_adds _ ps d m) C14.conserves_rate

/-- for a well-behaved divider that touches only listed priorities, the shares of the
    configured priorities add up to H (the hypothesis `hsum` of `c05_share` / `c05_full`) -/
theorem sum_strategic (div : DivFn) (hwb : WellBehaved div) (hframe : ∀ ps d k, k ∉ ps → (div 0 ps d []).get k = 0)
    (P : List Nat) (hP : P.Nodup) (hPne : P ≠ []) (H : Nat) : sumOver P (div 0 P H []) = H := by
  rw [← total_eq_sumOver P hP _ (hwb.nodup 0 P H [] Dist.nodupKeys_nil) (hframe P H),
    hwb.sum _ _ _ _ (Or.inl hPne)]
  simp

theorem sum_strategic_fair (P : List Nat) (hP : P.Nodup) (hPne : P ≠ []) (H : Nat) : sumOver P (fair P H []) = H :=
  sum_strategic (fun _ => fair) wellBehaved_fair (fun ps d k hk => by simpa using C14.c14_fair_frame ps d [] k hk) P hP hPne H

theorem sum_strategic_rate (P : List Nat) (hP : P.Nodup) (hPne : P ≠ []) (H : Nat) : sumOver P (rate P H []) = H :=
  sum_strategic (fun _ => rate) wellBehaved_rate
    (fun ps d k hk => by simpa [rate] using C14.c14_rate_frame _ ps d [] k hk) P hP hPne H

/-! Non-vacuity: a saturated run of Fair with H = 2 over priorities 2, 1. -/
example :
    (match initV2 (fun _ => fair) [(2, true), (1, true)] 2 with
     | .ok s0 =>
       (satRun (fun _ => fair) s0 [.arrive 2 7, .arrive 2 9, .arrive 1 8, .arrive 1 6, .calc, .pollItem, .skip, .pollItem,
          .skip, .recalc, .skip, .skip, .endRound, .limitedStop, .calc]).map (fun s => (s.pc, s.inflight, s.strategic))
     | .error _ => none) = some (.waitFb, [(2, 1), (1, 1)], [(2, 1), (1, 1)]) := by decide +kernel

/-! ### v1: the same for a discipline created by v1 `New` (no Stop, no AddInput/RemoveInput) -/

theorem sat_initV1 (div : DivFn) (keys : List (Nat × Bool)) (H : Nat) (hne : sortDesc (keys.map (·.1)) ≠ []) :
    SatInv (sortDesc (keys.map (·.1))) (div 0 (sortDesc (keys.map (·.1))) H []) (initV1 div keys H) := by
  refine ⟨rfl, by simp [initV1, hne], rfl, fun p => by simp [initV1, emptySt], fun k _ => by simp [initV1, emptySt],
    by simp [initV1, emptySt, Dist.NodupKeys], ?_, fun rest hr => by simp [initV1] at hr,
    fun ph rest hr => by simp [initV1] at hr, fun hw => by simp [initV1] at hw⟩
  intro p inp hp
  exact ((alGet_mkInputs keys p inp hp).1 ▸ rfl)

theorem sat_run_initV1 (div : DivFn) (hwb : WellBehaved div) (keys : List (Nat × Bool)) (H : Nat)
    (hnd : (keys.map (·.1)).Nodup) (hne : keys ≠ []) (s : St) (acts : List Act)
    (hsum : sumOver (sortDesc (keys.map (·.1))) (div 0 (sortDesc (keys.map (·.1))) H []) = H)
    (hr : satRun div (initV1 div keys H) acts = some s) :
    SatInv (sortDesc (keys.map (·.1))) (div 0 (sortDesc (keys.map (·.1))) H []) s ∧ Inv s ∧ s.cfg.H = H := by
  obtain ⟨hf, hH⟩ := C01.initV1_fresh div keys H
  have hPne : sortDesc (keys.map (·.1)) ≠ [] := sortDesc_ne_nil _ (by simpa using hne)
  obtain ⟨hs, hinv, hc⟩ := sat_run div hwb _ _ acts _ s (C01.fresh_inv hf) (C15.wf_initV1 div keys H hnd)
    (sat_initV1 div keys H hPne) (nodup_of_strict _ (sortDesc_strict _ hnd)) (by rw [hH]; exact hsum) (by rw [hH]) hPne hr
  exact ⟨hs, hinv, by rw [hc, hH]⟩

/-- **C05, v1 (never above the share).** -/
theorem c05_share_v1 (div : DivFn) (hwb : WellBehaved div) (keys : List (Nat × Bool)) (H : Nat)
    (hnd : (keys.map (·.1)).Nodup) (hne : keys ≠ []) (s : St) (acts : List Act)
    (hsum : sumOver (sortDesc (keys.map (·.1))) (div 0 (sortDesc (keys.map (·.1))) H []) = H)
    (hr : satRun div (initV1 div keys H) acts = some s) (p : Nat) :
    s.inflight.get p ≤ (div 0 (sortDesc (keys.map (·.1))) H []).get p := by
  obtain ⟨hs, hinv, _⟩ := sat_run_initV1 div hwb keys H hnd hne s acts hsum hr
  exact hs.share hinv p

/-- **C05, v1 (all handlers occupied whenever the discipline waits).** -/
theorem c05_full_v1 (div : DivFn) (hwb : WellBehaved div) (keys : List (Nat × Bool)) (H : Nat)
    (hnd : (keys.map (·.1)).Nodup) (hne : keys ≠ []) (s : St) (acts : List Act)
    (hsum : sumOver (sortDesc (keys.map (·.1))) (div 0 (sortDesc (keys.map (·.1))) H []) = H)
    (hr : satRun div (initV1 div keys H) acts = some s) (hwait : s.pc = .waitFb) :
    s.actual.total = H := by
  obtain ⟨hs, _, hH⟩ := sat_run_initV1 div hwb keys H hnd hne s acts hsum hr
  rw [hs.wait hwait, hH]

end Cqos.C05
