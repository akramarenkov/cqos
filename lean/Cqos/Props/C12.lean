import Cqos.Lemmas.LimitStep
/-
  Property C12 — limit: lossless ordered pass-through, closes after input, no extra
  throttling.  `lstep` (Cqos/Limit.lean) is the machine of `v2/limit`; theorems hold for
  every action list (every element count, arrival pattern, consumer speed).
-/
namespace Cqos.C12

/-- the element received but not yet sent -/
def held (s : LSt) : List Nat :=
  match s.pc with
  | .holding _ _ x => [x]
  | _ => []

/-- number of elements forwarded in the current batch -/
def inBatch (s : LSt) : Nat :=
  match s.pc with
  | .batch k _ => k
  | .holding k _ _ => k
  | _ => 0

def isHolding (s : LSt) : Bool :=
  match s.pc with
  | .holding _ _ _ => true
  | _ => false

/-- start of the current batch (the present, outside a batch) -/
def batchStart (s : LSt) : Nat :=
  match s.pc with
  | .batch _ st => st
  | .holding _ st _ => st
  | _ => s.now

structure LInv (s : LSt) : Prop where
  /-- what was sent, plus the element in hand, is exactly what was received, in order -/
  pass : s.sent.map (·.1) ++ held s = s.received
  /-- every completed batch forwarded exactly Quantity elements and requested one sleep -/
  count : (s.pc ≠ .done ∧ s.sent.length = s.cfg.quantity * s.sleeps.length + inBatch s) ∨
      (s.pc = .done ∧ s.cfg.quantity * s.sleeps.length ≤ s.sent.length ∧
        s.sent.length < s.cfg.quantity * s.sleeps.length + s.cfg.quantity)
  /-- a batch never forwards more than Quantity elements -/
  kle : inBatch s ≤ s.cfg.quantity
  hold : isHolding s = true → inBatch s < s.cfg.quantity
  /-- the batch start is in the past -/
  startLe : batchStart s ≤ s.now
  /-- no requested sleep exceeds Interval -/
  sleepLe : ∀ r ∈ s.sleeps, r ≤ (s.cfg.interval : Int)

theorem linv_init (cfg : LCfg) (t0 : Nat) : LInv (linit cfg t0) := by
  constructor <;> simp [linit, held, inBatch, isHolding, batchStart]

theorem LInv.count_eq {s : LSt} (h : LInv s) (hnd : s.pc ≠ .done) :
    s.sent.length = s.cfg.quantity * s.sleeps.length + inBatch s :=
  h.count.elim (·.2) (absurd ·.1 hnd)

theorem LInv.holding {s : LSt} {k st x : Nat} (h : LInv s) (hpc : s.pc = .holding k st x) :
    k < s.cfg.quantity ∧ st ≤ s.now ∧ s.sent.length = s.cfg.quantity * s.sleeps.length + k := by
  have e := h.count_eq (hpc ▸ nofun)
  have hh := h.hold
  have hst := h.startLe
  simp only [inBatch, isHolding, batchStart, hpc, forall_const] at e hh hst
  exact ⟨hh, hst, e⟩

theorem LInv.div_eq {s : LSt} {k st x : Nat} (h : LInv s) (hpc : s.pc = .holding k st x) :
    s.sent.length / s.cfg.quantity = s.sleeps.length := by
  obtain ⟨hh, _, e⟩ := h.holding hpc
  rw [e, Nat.mul_add_div (Nat.zero_lt_of_lt hh), Nat.div_eq_of_lt hh, Nat.add_zero]

theorem lstep_inv {s s' : LSt} {a : LAct} (h : LInv s) (hs : LStep s a s') : LInv s' := by
  have hp := h.pass
  have hc := h.count_eq
  have hst := h.startLe
  cases hs with
  | start t hpc hle | wake u t hpc hu hle =>
    simp only [held, inBatch, hpc] at hp hc
    exact ⟨hp, .inl ⟨nofun, hc nofun⟩, Nat.zero_le _, nofun, Nat.le_refl _, h.sleepLe⟩
  | recv k st x hpc hkq =>
    simp only [held, inBatch, batchStart, hpc, List.append_nil] at hp hc hst
    exact ⟨by simp only [held, hp], .inl ⟨nofun, hc nofun⟩, Nat.le_of_lt hkq, fun _ => hkq, hst, h.sleepLe⟩
  | closed k st hpc hkq =>
    simp only [held, inBatch, hpc] at hp hc
    exact ⟨hp, .inr ⟨rfl, hc nofun ▸ ⟨Nat.le_add_right .., Nat.add_lt_add_left hkq _⟩⟩, Nat.zero_le _, nofun,
      Nat.le_refl _, h.sleepLe⟩
  | sent k st x t hpc hle =>
    have hh := h.hold
    simp only [held, inBatch, isHolding, batchStart, hpc, forall_const] at hp hc hh hst
    refine ⟨by simp [held, ← hp], .inl ⟨nofun, ?_⟩, hh, nofun, Nat.le_trans hst hle, h.sleepLe⟩
    simp only [inBatch, List.length_append, List.length_singleton, hc nofun, Nat.add_assoc]
  | batchEnd k st t hpc hkq hle =>
    simp only [held, inBatch, batchStart, hpc] at hp hc hst
    refine ⟨hp, .inl ⟨nofun, ?_⟩, Nat.zero_le _, nofun, Nat.le_refl _, ?_⟩
    · simp only [inBatch, List.length_append, List.length_singleton, Nat.mul_succ, hc nofun, hkq, Nat.add_zero]
    · intro r hr
      rcases List.mem_append.1 hr with hr | hr
      · exact h.sleepLe r hr
      · cases List.mem_singleton.1 hr; simp only; omega

/-- every state reached from `linit cfg t0` has the configuration `cfg` and satisfies `LInv` -/
theorem lrun_inv {cfg : LCfg} {t0 : Nat} {acts : List LAct} {s : LSt} (hr : lrun (linit cfg t0) acts = some s) :
    s.cfg = cfg ∧ LInv s :=
  lrun_induction (I := fun s => s.cfg = cfg ∧ LInv s) (fun ⟨hc, hl⟩ hs => ⟨hs.cfg_eq.trans hc, lstep_inv hl hs⟩)
    ⟨rfl, linv_init cfg t0⟩ hr

/-- **C12 (lossless ordered pass-through).** At every moment the sent elements are, in
    order, a prefix of the received ones (at most one element is in hand); when the discipline
    has terminated they are exactly the received elements. -/
theorem c12_passthrough (cfg : LCfg) (t0 : Nat) (acts : List LAct) (s : LSt)
    (hr : lrun (linit cfg t0) acts = some s) :
    s.sent.map (·.1) ++ held s = s.received ∧ (s.pc = .done → s.sent.map (·.1) = s.received) := by
  have h := (lrun_inv hr).2.pass
  exact ⟨h, fun hd => by simpa [held, hd] using h⟩

/-- **C12 (closes only after the input is closed and drained).** The machine reaches `done`
    only through the `closed` action (a receive that reports the input closed and empty). -/
theorem c12_close (s s' : LSt) (a : LAct) (hs : lstep s a = some s') (hd : s'.pc = .done) (_hnd : s.pc ≠ .done) :
    a = .closed := by
  cases LStep.of_lstep hs <;> first | rfl | cases hd

/-- **C12 (no extra throttling: fewer than Quantity elements pass with no pause at all).** -/
theorem c12_no_pause_small (cfg : LCfg) (t0 : Nat) (_hq : 0 < cfg.quantity) (acts : List LAct) (s : LSt)
    (hr : lrun (linit cfg t0) acts = some s) (hsmall : s.received.length < cfg.quantity) :
    s.sleeps = [] := by
  obtain ⟨rfl, h⟩ := lrun_inv hr
  -- `Quantity · sleeps ≤ sent ≤ received < Quantity`
  have hlen : s.sent.length ≤ s.received.length := by
    rw [← h.pass, List.length_append, List.length_map]; exact Nat.le_add_right ..
  have hmul : s.cfg.quantity * s.sleeps.length ≤ s.sent.length :=
    h.count.elim (fun ⟨_, e⟩ => e ▸ Nat.le_add_right ..) (·.2.1)
  have : s.cfg.quantity * s.sleeps.length < s.cfg.quantity * 1 := by
    rw [Nat.mul_one]; exact Nat.lt_of_le_of_lt (Nat.le_trans hmul hlen) hsmall
  exact List.eq_nil_of_length_eq_zero (Nat.lt_one_iff.1 (Nat.lt_of_mul_lt_mul_left this))

/-- **C12 (sleep count and size).** Exactly one sleep is requested per completed batch of
    Quantity elements — `⌊sent/Quantity⌋` when no batch is in progress — and no requested sleep
    exceeds Interval. -/
theorem c12_sleep_count (cfg : LCfg) (t0 : Nat) (hq : 0 < cfg.quantity) (acts : List LAct) (s : LSt)
    (hr : lrun (linit cfg t0) acts = some s) :
    (inBatch s < cfg.quantity → s.sleeps.length = s.sent.length / cfg.quantity) ∧
    (∀ r ∈ s.sleeps, r ≤ (cfg.interval : Int)) := by
  obtain ⟨rfl, h⟩ := lrun_inv hr
  refine ⟨fun hlt => ?_, h.sleepLe⟩
  rcases h.count with ⟨_, e⟩ | ⟨_, e1, e2⟩
  · rw [e, Nat.mul_add_div hq, Nat.div_eq_of_lt hlt, Nat.add_zero]
  · exact (Nat.div_eq_of_lt_le (Nat.mul_comm .. ▸ e1) (by rwa [Nat.succ_mul, Nat.mul_comm])).symm

/-! Non-vacuity: Quantity 2, five elements, then close. -/
example :
    (lrun (linit ⟨2, 100⟩ 0)
      [.start 1, .recv 10, .sent 2, .recv 11, .sent 3, .batchEnd 4, .wake 101, .start 101, .recv 12, .sent 102,
       .recv 13, .sent 103, .batchEnd 104, .wake 201, .start 202, .recv 14, .sent 203, .closed]).map
      (fun s => (s.sent.map (·.1), s.sleeps, s.pc)) = some ([10, 11, 12, 13, 14], [97, 97], .done) := by decide +kernel

end Cqos.C12
