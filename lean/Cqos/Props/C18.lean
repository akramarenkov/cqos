import Cqos.Props.C14
import Cqos.Lemmas.Round
import Cqos.Lemmas.SortDesc
/-
  Property C18 — handler-quantity helpers agree with their definition; non-fatal ⇒ accepted.

  `genCombinations`, `isNonFatal`, `isSuitable…`, `pickUpMin/Max`, `prepareV2` model
  `utils.go` of both modules and v2 `prepare`; tied to the Go code by the C18
  correspondence family (all priority sets over a small alphabet, near-equal priorities
  that trigger Rate's truncation, random sets; `prepare` is run for every case).
-/
namespace Cqos.C18

/-- the accumulator invariant: a member is a combination collected so far extended by a sub-list
    of the priorities still to come, or a non-empty sub-list of those on its own -/
theorem mem_genCombinations (ps : List Nat) (acc : List (List Nat)) (c : List Nat) :
    c ∈ genCombinations ps acc ↔
      ∃ a s, s.Sublist ps ∧ c = a ++ s ∧ (a ∈ acc ∨ (a = [] ∧ s ≠ [])) := by
  induction ps generalizing acc with
  | nil =>
    simp only [genCombinations]
    constructor
    · intro h; exact ⟨c, [], List.Sublist.refl _, by simp, Or.inl h⟩
    · rintro ⟨a, s, hs, rfl, h⟩
      have : s = [] := List.sublist_nil.1 hs
      subst this
      rcases h with h | ⟨_, h⟩
      · simpa using h
      · exact absurd rfl h
  | cons p ps ih =>
    simp only [genCombinations]
    rw [ih]
    constructor
    · rintro ⟨a, s, hs, rfl, h⟩
      rcases h with h | ⟨rfl, hne⟩
      · simp only [List.mem_append, List.mem_map, List.mem_singleton] at h
        rcases h with (h | ⟨b, hb, rfl⟩) | rfl
        · exact ⟨a, s, hs.cons p, rfl, Or.inl h⟩
        · exact ⟨b, p :: s, hs.cons_cons p, by simp, Or.inl hb⟩
        · exact ⟨[], p :: s, hs.cons_cons p, by simp, Or.inr ⟨rfl, by simp⟩⟩
      · exact ⟨[], s, hs.cons p, rfl, Or.inr ⟨rfl, hne⟩⟩
    · rintro ⟨a, s, hs, rfl, h⟩
      cases hs with
      | cons _ hs' =>
        rcases h with h | h
        · exact ⟨a, s, hs', rfl, Or.inl (by simp [h])⟩
        · exact ⟨a, s, hs', rfl, Or.inr h⟩
      | cons_cons _ hs' =>
        rename_i s'
        rcases h with h | ⟨rfl, _⟩
        · exact ⟨a ++ [p], s', hs', by simp, Or.inl (by simp [h])⟩
        · exact ⟨[p], s', hs', by simp, Or.inl (by simp)⟩

/-- **C18 (combinations).** `genCombinations` yields exactly the non-empty
    order-preserving sub-lists of its argument. -/
theorem c18_comb (ps c : List Nat) : c ∈ genCombinations ps [] ↔ c ≠ [] ∧ c.Sublist ps := by
  rw [mem_genCombinations]
  constructor
  · rintro ⟨a, s, hs, rfl, h⟩
    rcases h with h | ⟨rfl, hne⟩
    · simp at h
    · exact ⟨by simpa using hne, by simpa using hs⟩
  · rintro ⟨hne, hs⟩
    exact ⟨[], c, hs, by simp, Or.inr ⟨rfl, hne⟩⟩

theorem length_genCombinations (ps : List Nat) (acc : List (List Nat)) :
    (genCombinations ps acc).length + 1 = (acc.length + 1) * 2 ^ ps.length := by
  induction ps generalizing acc with
  | nil => simp [genCombinations]
  | cons p ps ih =>
    simp only [genCombinations]
    rw [ih]
    simp only [List.length_append, List.length_map, List.length_cons, List.length_nil, Nat.pow_succ]
    have : acc.length + acc.length + (0 + 1) + 1 = (acc.length + 1) * 2 := by omega
    rw [this, Nat.mul_assoc, Nat.mul_comm 2]

/-- **C18 (number of combinations).** `2^n − 1`. -/
theorem c18_comb_count (ps : List Nat) : (genCombinations ps []).length = 2 ^ ps.length - 1 := by
  have := length_genCombinations ps []
  simp at this
  omega

/-- **C18 (IsNonFatalConfig agrees with its definition)** — for ANY divider: true exactly
    when every member of every non-empty sub-list of the priorities (sorted from highest
    to lowest) receives at least one unit of `q`. -/
theorem c18_nonfatal_iff (ps : List Nat) (div : Div) (q : Nat) :
    isNonFatal ps div q = true ↔
      ∀ c : List Nat, c ≠ [] → c.Sublist (sortDesc ps) → ∀ p ∈ c, 1 ≤ (div c q []).get p := by
  simp only [isNonFatal, isNonFatalCombos, List.all_eq_true]
  constructor
  · intro h c hne hs
    exact (filledFor_iff _ _).1 (h c ((c18_comb _ _).2 ⟨hne, hs⟩))
  · intro h c hc
    obtain ⟨hne, hs⟩ := (c18_comb _ _).1 hc
    exact (filledFor_iff _ _).2 (h c hne hs)

/-- Defect D2, kept as a decided fact about the UNREPAIRED check: it looked only at the
    keys present in the map, so a divider that leaves a listed key absent passed. -/
theorem c18_unfixed_counterexample :
    isNonFatalUnfixed [2, 1] (fun ps _ m => match ps with | p :: _ => m.add p 1 | [] => m) 1 = true ∧
    isNonFatal [2, 1] (fun ps _ m => match ps with | p :: _ => m.add p 1 | [] => m) 1 = false := by
  decide

/-- **C18 (IsSuitableConfig implies IsNonFatalConfig).** -/
theorem c18_suitable_imp (exceeds : Nat → Nat → Bool) (combos : List (List Nat)) (div : Div)
    (q refTotal : Nat) (h : isSuitableCombosWith exceeds combos div q refTotal = true) :
    isNonFatalCombos combos div q = true := by
  simp only [isSuitableCombosWith, isNonFatalCombos, List.all_eq_true, Bool.and_eq_true] at *
  intro c hc; exact (h c hc).1

/-- **C18 (monotone in the limit).** Stated for an arbitrary comparison: if everything
    that exceeds the larger limit also exceeds the smaller one (which is what `diff > limit`
    means for ordered limits), a configuration suitable for the smaller limit is suitable
    for the larger one. -/
theorem c18_suitable_mono (ex ex' : Nat → Nat → Bool) (hmono : ∀ a b, ex' a b = true → ex a b = true)
    (combos : List (List Nat)) (div : Div) (q refTotal : Nat)
    (h : isSuitableCombosWith ex combos div q refTotal = true) :
    isSuitableCombosWith ex' combos div q refTotal = true := by
  simp only [isSuitableCombosWith, isDistSuitableWith, List.all_eq_true, Bool.and_eq_true] at h ⊢
  intro c hc
  refine ⟨(h c hc).1, fun kv hkv => ?_⟩
  have := (h c hc).2 kv hkv
  refine ⟨this.1, ?_⟩
  cases hx : ex' ((div c q []).get kv.1) kv.2 with
  | false => rfl
  | true => rw [hmono _ _ hx] at this; exact this.2

theorem pickUpMinFrom_spec (pred : Nat → Bool) (max fuel q : Nat) (hf : fuel + q = max + 1) :
    let r := pickUpMinFrom pred max fuel q
    (r = 0 ∧ ∀ x, q ≤ x → x ≤ max → pred x = false) ∨
    (q ≤ r ∧ r ≤ max ∧ pred r = true ∧ ∀ x, q ≤ x → x < r → pred x = false) := by
  induction fuel generalizing q with
  | zero => exact Or.inl ⟨rfl, fun x h1 h2 => by omega⟩
  | succ fuel ih =>
    have hle : q ≤ max := by omega
    simp only [pickUpMinFrom, if_pos hle]
    cases hp : pred q with
    | true => exact Or.inr ⟨Nat.le_refl _, hle, hp, fun x h1 h2 => absurd h2 (Nat.not_lt.2 h1)⟩
    | false =>
      -- `q` fails, so "from `q`" and "from `q + 1`" say the same
      have hstep : ∀ x, q ≤ x → (q + 1 ≤ x → pred x = false) → pred x = false := fun x h1 h =>
        (Nat.eq_or_lt_of_le h1).elim (fun e => e ▸ hp) h
      simp only [Bool.false_eq_true, if_false]
      rcases ih (q + 1) (by omega) with ⟨h0, hall⟩ | ⟨h1, h2, h3, h4⟩
      · exact Or.inl ⟨h0, fun x hx1 hx2 => hstep x hx1 fun h => hall x h hx2⟩
      · exact Or.inr ⟨Nat.le_of_succ_le h1, h2, h3, fun x hx1 hx2 => hstep x hx1 fun h => h4 x h hx2⟩

/-- **C18 (PickUpMin…).** The result is the least `q ∈ [1,max]` satisfying the predicate,
    or 0 if there is none. -/
theorem c18_pick_min (pred : Nat → Bool) (max : Nat) :
    (pickUpMin pred max = 0 ∧ ∀ x, 1 ≤ x → x ≤ max → pred x = false) ∨
    (1 ≤ pickUpMin pred max ∧ pickUpMin pred max ≤ max ∧ pred (pickUpMin pred max) = true ∧
      ∀ x, 1 ≤ x → x < pickUpMin pred max → pred x = false) :=
  pickUpMinFrom_spec pred max max 1 (by omega)

/-- **C18 (PickUpMax…).** The result is the greatest `q ∈ [1,max]` satisfying the
    predicate, or 0 if there is none. -/
theorem c18_pick_max (pred : Nat → Bool) (max : Nat) :
    (pickUpMax pred max = 0 ∧ ∀ x, 1 ≤ x → x ≤ max → pred x = false) ∨
    (1 ≤ pickUpMax pred max ∧ pickUpMax pred max ≤ max ∧ pred (pickUpMax pred max) = true ∧
      ∀ x, pickUpMax pred max < x → x ≤ max → pred x = false) := by
  induction max with
  | zero => exact Or.inl ⟨rfl, fun x h1 h2 => absurd (Nat.le_trans h1 h2) (Nat.not_succ_le_zero 0)⟩
  | succ n ih =>
    simp only [pickUpMax]
    cases hp : pred (n + 1) with
    | true =>
      exact Or.inr ⟨Nat.succ_pos n, Nat.le_refl _, hp, fun x h1 h2 => absurd h1 (Nat.not_lt.2 h2)⟩
    | false =>
      have hstep : ∀ x, x ≤ n + 1 → (x ≤ n → pred x = false) → pred x = false := fun x h1 h =>
        (Nat.eq_or_lt_of_le h1).elim (fun e => e ▸ hp) fun hlt => h (Nat.le_of_lt_succ hlt)
      simp only [Bool.false_eq_true, if_false]
      rcases ih with ⟨h0, hall⟩ | ⟨h1, h2, h3, h4⟩
      · exact Or.inl ⟨h0, fun x hx1 hx2 => hstep x hx2 (hall x hx1)⟩
      · exact Or.inr ⟨h1, Nat.le_succ_of_le h2, h3, fun x hx1 hx2 => hstep x hx2 (h4 x hx1)⟩

/-- **C18 (non-fatal ⇒ accepted by the v2 constructor).** For a divider that obeys the sum
    rule on the full priority list (Fair and Rate do: `c14_fair_total`, `c14_rate_total`),
    a configuration judged non-fatal passes `prepare`. -/
theorem c18_accepted (ps : List Nat) (div : Div) (q : Nat) (hps : ps ≠ [])
    (hsum : (div (sortDesc ps) q []).total = q)
    (hnf : isNonFatal ps div q = true) :
    prepareV2 div ps q = .ok (sortDesc ps, div (sortDesc ps) q []) := by
  have hfill : filledFor (sortDesc ps) (div (sortDesc ps) q []) = true :=
    (filledFor_iff _ _).2 ((c18_nonfatal_iff ps div q).1 hnf _ (sortDesc_ne_nil ps hps) (List.Sublist.refl _))
  rw [prepareV2_eq]
  simp only [if_pos (Or.inr hsum), hfill, if_true]

theorem c18_accepted_of_conserves {div : Div} (hc : Conserves div) (ps : List Nat) (q : Nat) (hps : ps ≠ [])
    (hnf : isNonFatal ps div q = true) : ∃ s, prepareV2 div ps q = .ok (sortDesc ps, s) :=
  ⟨_, c18_accepted ps div q hps (by simp [hc _ q [], sortDesc_ne_nil ps hps]) hnf⟩

/-- instances for the two library dividers -/
theorem c18_accepted_fair (ps : List Nat) (q : Nat) (hps : ps ≠ []) (hnf : isNonFatal ps fair q = true) :
    ∃ s, prepareV2 fair ps q = .ok (sortDesc ps, s) :=
  c18_accepted_of_conserves conserves_fair ps q hps hnf

theorem c18_accepted_rate (ps : List Nat) (q : Nat) (hps : ps ≠ []) (hnf : isNonFatal ps rate q = true) :
    ∃ s, prepareV2 rate ps q = .ok (sortDesc ps, s) :=
  c18_accepted_of_conserves C14.conserves_rate ps q hps hnf

/-- Fair fills every listed priority exactly when there is a unit for each:
    the last one listed receives `⌊q/n⌋` -/
theorem filledFor_fair_iff (c : List Nat) (q : Nat) (hnd : c.Nodup) (hne : c ≠ []) :
    filledFor c (fair c q []) = true ↔ c.length ≤ q := by
  have hn : 0 < c.length := List.length_pos_iff.mpr hne
  rw [filledFor_iff, ← Nat.one_le_div_iff hn]
  constructor
  · intro h
    have h1 := h _ (List.getElem_mem (Nat.sub_one_lt_of_lt hn))
    rw [C14.c14_fair_shape c q [] hnd, if_neg (by have := Nat.mod_lt q hn; omega)] at h1
    simpa using h1
  · intro hd p hp
    obtain ⟨j, hj, rfl⟩ := List.mem_iff_getElem.1 hp
    rw [C14.c14_fair_shape c q [] hnd j hj]; omega

/-- **C18 (closed form for Fair).** For distinct priorities, `IsNonFatalConfig(ps, Fair, q)` is
    true exactly when there are at least as many handlers as priorities — the documented
    minimum for the fair divider, for every priority list and every quantity. -/
theorem c18_fair_nonfatal_iff (ps : List Nat) (q : Nat) (hnd : ps.Nodup) (hps : ps ≠ []) :
    isNonFatal ps fair q = true ↔ ps.length ≤ q := by
  have hperm := sortDesc_perm ps
  have hsnd : (sortDesc ps).Nodup := hperm.nodup_iff.mpr hnd
  simp only [isNonFatal, isNonFatalCombos, List.all_eq_true, c18_comb]
  constructor
  · intro h
    have := (filledFor_fair_iff _ q hsnd (sortDesc_ne_nil ps hps)).1 (h _ ⟨sortDesc_ne_nil ps hps, List.Sublist.refl _⟩)
    rwa [hperm.length_eq] at this
  · intro hq c ⟨hne, hsub⟩
    have := hsub.length_le
    rw [hperm.length_eq] at this
    exact (filledFor_fair_iff c q (hsub.nodup hsnd) hne).2 (by omega)

theorem pickUpMin_threshold (pred : Nat → Bool) (n max : Nat) (hn : 0 < n) (h : ∀ q, pred q = true ↔ n ≤ q) :
    pickUpMin pred max = if n ≤ max then n else 0 := by
  have hnn : pred n ≠ false := fun e => Bool.false_ne_true (e.symm.trans ((h n).2 (Nat.le_refl n)))
  rcases c18_pick_min pred max with ⟨h0, hall⟩ | ⟨_, h2, h3, h4⟩
  · rw [h0, if_neg fun hle => hnn (hall n hn hle)]
  · have hge := (h _).1 h3
    rw [if_pos (Nat.le_trans hge h2)]
    exact Nat.le_antisymm (Nat.le_of_not_lt fun hlt => hnn (h4 n hn hlt)) hge

theorem pickUpMax_threshold (pred : Nat → Bool) (n max : Nat) (hn : 0 < n) (h : ∀ q, pred q = true ↔ n ≤ q) :
    pickUpMax pred max = if n ≤ max then max else 0 := by
  have hmax : n ≤ max → pred max ≠ false := fun hle e => Bool.false_ne_true (e.symm.trans ((h max).2 hle))
  rcases c18_pick_max pred max with ⟨h0, hall⟩ | ⟨_, h2, h3, h4⟩
  · rw [h0, if_neg fun hle => hmax hle (hall max (Nat.le_trans hn hle) (Nat.le_refl _))]
  · have hle := Nat.le_trans ((h _).1 h3) h2
    rw [if_pos hle]
    exact Nat.le_antisymm h2 (Nat.le_of_not_lt fun hlt => hmax hle (h4 max hlt (Nat.le_refl _)))

/-- **C18 (PickUpMinNonFatalQuantity for Fair).** With distinct priorities the least non-fatal
    number of handlers is the number of priorities, when the search bound allows it — and the
    helper reports 0 ("none") exactly when it does not. -/
theorem c18_fair_pick_min (ps : List Nat) (max : Nat) (hnd : ps.Nodup) (hps : ps ≠ []) :
    pickUpMin (isNonFatal ps fair) max = if ps.length ≤ max then ps.length else 0 :=
  pickUpMin_threshold _ _ _ (List.length_pos_iff.mpr hps) fun q => c18_fair_nonfatal_iff ps q hnd hps

/-- **C18 (PickUpMaxNonFatalQuantity for Fair).** Every quantity from the number of priorities
    upwards is non-fatal for Fair, so the greatest one within the bound is the bound itself. -/
theorem c18_fair_pick_max (ps : List Nat) (max : Nat) (hnd : ps.Nodup) (hps : ps ≠ []) :
    pickUpMax (isNonFatal ps fair) max = if ps.length ≤ max then max else 0 :=
  pickUpMax_threshold _ _ _ (List.length_pos_iff.mpr hps) fun q => c18_fair_nonfatal_iff ps q hnd hps

example : genCombinations [3, 2, 1] [] = [[3], [3, 2], [2], [3, 1], [3, 2, 1], [2, 1], [1]] := by decide +kernel
example : isNonFatal [1, 3, 2] fair 3 = true ∧ isNonFatal [1, 3, 2] fair 2 = false := by decide +kernel
example : pickUpMin (isNonFatal [1, 3, 2] fair) 10 = 3 := by decide +kernel
example : isNonFatal [1, 3, 2] fair 3 = true := (c18_fair_nonfatal_iff [1, 3, 2] 3 (by decide) (by decide)).2 (by decide)

end Cqos.C18
