import Cqos.Lemmas.PStep
/-
  C16 and C19 for v1 `priority.Simple`, on the protocol machine of Cqos/SimpleV1.lean (after the
  repair of defect D4).  `PInv` says, for each place of `main`, what the helper, the inner
  discipline and the handlers have done by then; `pmu` counts the moves the discipline's own
  processes have left.  Every step keeps the one, every own move lowers the other
  (`pstep_bound`), and wherever `Stop()` was called or the context cancelled some own process can
  move — also with a graceful stop pending and inputs that never close.  Before the repair a
  reachable state has `Stop()` called and nothing able to move (`c16_simple_unfixed_deadlock`).
-/
namespace Cqos.SimpleV1

def rank : MainPc → Nat
  | .gracefulSync => 9
  | .select => 8
  | .inGraceful => 7
  | .stopInner => 6
  | .waitHelper => 5
  | .deferStop => 4
  | .deferCancel => 3
  | .deferWait => 2
  | .completed => 0

/-- how many moves of the discipline's own processes are left at most -/
def pmu (s : PSt) : Nat :=
  2 * rank s.pc + (if s.innerDone then 0 else 1) + (if s.helper = .blocked then 1 else 0) + s.handlers

structure PInv (s : PSt) : Prop where
  fixed : s.unfixed = false
  sel : s.pc = .select → s.helper = .none
  ing : s.pc = .inGraceful → s.helper ≠ .none
  sti : s.pc = .stopInner → s.innerStop = true ∧ s.helper ≠ .none
  wth : s.pc = .waitHelper → s.innerDone = true ∧ s.helper ≠ .none
  dst : s.pc = .deferStop → s.innerStop = true ∧ s.helper ≠ .blocked
  dcn : s.pc = .deferCancel → s.innerDone = true ∧ s.helper ≠ .blocked
  dwt : s.pc = .deferWait → s.hctx = true ∧ s.innerDone = true ∧ s.helper ≠ .blocked
  cmp : s.pc = .completed → s.handlers = 0 ∧ s.innerDone = true ∧ s.helper ≠ .blocked
  nosync : s.pc ≠ .gracefulSync

theorem pinv_init (n : Nat) : PInv (init false n) :=
  ⟨rfl, fun _ => rfl, nofun, nofun, nofun, nofun, nofun, nofun, nofun, nofun⟩

def PInv.at (s : PSt) : MainPc → Prop
  | .select => s.helper = .none
  | .inGraceful => s.helper ≠ .none
  | .stopInner => s.innerStop = true ∧ s.helper ≠ .none
  | .waitHelper => s.innerDone = true ∧ s.helper ≠ .none
  | .deferStop => s.innerStop = true ∧ s.helper ≠ .blocked
  | .deferCancel => s.innerDone = true ∧ s.helper ≠ .blocked
  | .deferWait => s.hctx = true ∧ s.innerDone = true ∧ s.helper ≠ .blocked
  | .completed => s.handlers = 0 ∧ s.innerDone = true ∧ s.helper ≠ .blocked
  | .gracefulSync => False

theorem PInv.of_at {s : PSt} (hf : s.unfixed = false) (h : PInv.at s s.pc) : PInv s := by
  refine ⟨hf, ?_, ?_, ?_, ?_, ?_, ?_, ?_, ?_, ?_⟩ <;> intro e <;> rw [e] at h <;> exact h

/-- for the moves of the user and of the processes other than `main`: `main` stays where it is,
    flags only rise, the helper only goes from blocked to finished, handlers only leave -/
theorem PInv.stable {s s' : PSt} (h : PInv s) (hu : s'.unfixed = s.unfixed) (hpc : s'.pc = s.pc)
    (hstop : s'.innerStop = s.innerStop) (hdone : s.innerDone = true → s'.innerDone = true)
    (hctx : s.hctx = true → s'.hctx = true) (hn : s'.handlers ≤ s.handlers)
    (hh : s'.helper = s.helper ∨ s.helper = .blocked ∧ s'.helper = .finished) : PInv s' := by
  have hnone : s.helper ≠ .none → s'.helper ≠ .none := by
    rcases hh with e | ⟨_, e⟩ <;> rw [e] <;> simp
  have hblk : s.helper ≠ .blocked → s'.helper ≠ .blocked := by
    rcases hh with e | ⟨_, e⟩ <;> rw [e] <;> simp
  refine ⟨hu ▸ h.fixed, ?_, ?_, ?_, ?_, ?_, ?_, ?_, ?_, ?_⟩ <;> rw [hpc] <;> intro e
  · rcases hh with e' | ⟨e', _⟩
    · rw [e']; exact h.sel e
    · rw [h.sel e] at e'; cases e'
  · exact hnone (h.ing e)
  · exact ⟨hstop ▸ (h.sti e).1, hnone (h.sti e).2⟩
  · exact ⟨hdone (h.wth e).1, hnone (h.wth e).2⟩
  · exact ⟨hstop ▸ (h.dst e).1, hblk (h.dst e).2⟩
  · exact ⟨hdone (h.dcn e).1, hblk (h.dcn e).2⟩
  · exact ⟨hctx (h.dwt e).1, hdone (h.dwt e).2.1, hblk (h.dwt e).2.2⟩
  · exact ⟨by have := (h.cmp e).1; omega, hdone (h.cmp e).2.1, hblk (h.cmp e).2.2⟩
  · exact h.nosync e

/-- every move of `main` lowers its rank, which pays for the helper it may start -/
theorem pmu_lt_of_rank_lt {s s' : PSt} (hr : rank s'.pc < rank s.pc) (hd : s'.innerDone = s.innerDone)
    (hn : s'.handlers = s.handlers) : pmu s' < pmu s := by
  unfold pmu
  rw [hd, hn]
  have : (if s'.helper = .blocked then 1 else 0) ≤ 1 := by split <;> decide
  omega

theorem pstep_bound {s s' : PSt} {a : PAct} (h : PInv s) (hs : pstep s a = some s') :
    PInv s' ∧ if isEnv a = true then pmu s' ≤ pmu s else pmu s' < pmu s := by
  have hf := h.fixed
  cases PStep.of_pstep hs with
  | stop | graceful | drain => exact ⟨h.stable rfl rfl rfl id id (Nat.le_refl _) (.inl rfl), Nat.le_refl _⟩
  | cancel => exact ⟨h.stable rfl rfl rfl id (fun _ => rfl) (Nat.le_refl _) (.inl rfl), Nat.le_refl _⟩
  | selStop hc | selErr hc =>
    exact ⟨.of_at hf ⟨rfl, by simp [h.sel hc.1]⟩, pmu_lt_of_rank_lt (by simp [hc.1, rank]) rfl rfl⟩
  | selGracefulSync _ hu => rw [hf] at hu; cases hu
  | selGraceful hc =>
    exact ⟨.of_at hf (by simp [PInv.at]), pmu_lt_of_rank_lt (by simp [hc.1, rank]) rfl rfl⟩
  | gDone hc | helperJoined hc =>
    exact ⟨.of_at hf ⟨rfl, by simp [hc.2]⟩, pmu_lt_of_rank_lt (by simp [hc.1, rank]) rfl rfl⟩
  | gStop hc =>
    exact ⟨.of_at hf ⟨rfl, h.ing hc.1⟩, pmu_lt_of_rank_lt (by simp [hc.1, rank]) rfl rfl⟩
  | stoppedInner hd hpc =>
    exact ⟨.of_at hf ⟨hd, (h.sti hpc).2⟩, pmu_lt_of_rank_lt (by simp [hpc, rank]) rfl rfl⟩
  | stoppedDefer hd hpc =>
    exact ⟨.of_at hf ⟨hd, (h.dst hpc).2⟩, pmu_lt_of_rank_lt (by simp [hpc, rank]) rfl rfl⟩
  | stoppedSync _ hpc => exact absurd hpc h.nosync
  | cancelHandlers hpc =>
    exact ⟨.of_at hf ⟨rfl, h.dcn hpc⟩, pmu_lt_of_rank_lt (by simp [hpc, rank]) rfl rfl⟩
  | handlersGone hc =>
    exact ⟨.of_at hf ⟨hc.2, (h.dwt hc.1).2⟩, pmu_lt_of_rank_lt (by simp [hc.1, rank]) rfl rfl⟩
  | innerFinish hc =>
    refine ⟨h.stable rfl rfl rfl (fun _ => rfl) id (Nat.le_refl _) (.inl rfl), ?_⟩
    have hnd : s.innerDone = false := Bool.eq_false_iff.2 hc.1
    show pmu _ < _
    simp only [pmu, hnd, Bool.false_eq_true, ↓reduceIte]; omega
  | helperReturn hc =>
    refine ⟨h.stable rfl rfl rfl id id (Nat.le_refl _) (.inr ⟨hc.1, rfl⟩), ?_⟩
    show pmu _ < _
    simp only [pmu, hc.1, reduceCtorEq, ↓reduceIte]; omega
  | handlerExit hc =>
    refine ⟨h.stable rfl rfl rfl id id (Nat.sub_le ..) (.inl rfl), ?_⟩
    show pmu _ < _
    simp only [pmu]; omega

/-- **every move of the discipline's own processes keeps the invariant and strictly decreases
    the measure** -/
theorem sys_step (s s' : PSt) (a : PAct) (h : PInv s) (he : isEnv a = false) (hs : pstep s a = some s') :
    PInv s' ∧ pmu s' < pmu s := by
  have := pstep_bound h hs
  rw [he] at this
  exact this

/-- **C16 (v1 Simple): no reachable state ignores Stop / cancellation.** Whenever `Stop()` was
    called or the context is cancelled and `main` has not completed, one of the discipline's own
    processes can move — whatever else is pending (a graceful stop, open inputs, busy handlers). -/
theorem c16_simple_progress (s : PSt) (h : PInv s) (hstop : s.stopReq = true ∨ s.ctxDone = true)
    (hnc : s.pc ≠ .completed) : ∃ a, isEnv a = false ∧ (pstep s a).isSome = true := by
  cases hpc : s.pc with
  | completed => exact absurd hpc hnc
  | gracefulSync => exact absurd hpc h.nosync
  | select => exact ⟨.selStop, rfl, Option.isSome_ite.2 ⟨hpc, hstop⟩⟩
  | inGraceful => exact ⟨.gStop, rfl, Option.isSome_ite.2 ⟨hpc, hstop⟩⟩
  | stopInner =>
    by_cases hd : s.innerDone = true
    · exact ⟨.innerStopped, rfl, by simp [pstep, hd, hpc]⟩
    · exact ⟨.innerFinish, rfl, Option.isSome_ite.2 ⟨hd, .inl (h.sti hpc).1⟩⟩
  | waitHelper =>
    obtain ⟨hd, hn⟩ := h.wth hpc
    cases hh : s.helper with
    | none => exact absurd hh hn
    | blocked => exact ⟨.helperReturn, rfl, Option.isSome_ite.2 ⟨hh, hd⟩⟩
    | finished => exact ⟨.helperJoined, rfl, Option.isSome_ite.2 ⟨hpc, hh⟩⟩
  | deferStop =>
    by_cases hd : s.innerDone = true
    · exact ⟨.innerStopped, rfl, by simp [pstep, hd, hpc]⟩
    · exact ⟨.innerFinish, rfl, Option.isSome_ite.2 ⟨hd, .inl (h.dst hpc).1⟩⟩
  | deferCancel => exact ⟨.cancelHandlers, rfl, Option.isSome_ite.2 hpc⟩
  | deferWait =>
    by_cases hz : s.handlers = 0
    · exact ⟨.handlersGone, rfl, Option.isSome_ite.2 ⟨hpc, hz⟩⟩
    · exact ⟨.handlerExit, rfl, Option.isSome_ite.2 ⟨(h.dwt hpc).1, Nat.pos_of_ne_zero hz⟩⟩

/-- the moves of the discipline's own processes in an action list -/
def sysMoves (acts : List PAct) : Nat := (acts.filter (fun a => !isEnv a)).length

/-- **C16 (v1 Simple): bounded.** In every run, whatever the user does and whenever, the
    discipline's own processes make at most `pmu` moves — `2·8 + 1 + HandlersQuantity` from
    creation — so with `c16_simple_progress` `main` completes after at most that many. -/
theorem c16_simple_bound (acts : List PAct) (s s' : PSt) (h : PInv s) (hr : prun s acts = some s') :
    PInv s' ∧ sysMoves acts + pmu s' ≤ pmu s := by
  induction acts generalizing s with
  | nil => cases hr; exact ⟨h, by simp [sysMoves]⟩
  | cons a as ih =>
    simp only [prun] at hr
    split at hr
    · rename_i s1 hs1
      obtain ⟨h1, hm⟩ := pstep_bound h hs1
      obtain ⟨h2, hb⟩ := ih s1 h1 hr
      refine ⟨h2, ?_⟩
      simp only [sysMoves, List.filter_cons] at hb ⊢
      cases he : isEnv a <;> simp [he] at hm ⊢ <;> omega
    · cases hr

/-- **C19 (v1 Simple): when `main` has completed nothing remains** — every handler goroutine
    has returned, the helper goroutine is not blocked, the inner discipline has terminated. -/
theorem c19_simple_completed (n : Nat) (acts : List PAct) (s : PSt) (hr : prun (init false n) acts = some s)
    (hc : s.pc = .completed) : s.handlers = 0 ∧ s.innerDone = true ∧ s.helper ≠ .blocked :=
  (c16_simple_bound acts _ s (pinv_init n) hr).1.cmp hc

/-- **the composition before the repair of D4 deadlocks**: GracefulStop() is called, `main`
    takes that branch, then Stop() is called and the context cancelled; the handlers return —
    and from then on no process of the discipline can ever move again (the inputs are still
    open, nobody serves the inner discipline): `Stop()` never returns. -/
theorem c16_simple_unfixed_deadlock :
    ∃ s, prun (init true 2) [.graceful, .selGraceful, .stop, .cancel, .handlerExit, .handlerExit] = some s ∧
      s.stopReq = true ∧ s.pc ≠ .completed ∧ ∀ a, isEnv a = false → pstep s a = none := by
  refine ⟨_, rfl, rfl, by decide, ?_⟩
  intro a ha
  -- an own action returns `none` by evaluation, a user's action is excluded by `ha`
  cases a <;> first | rfl | cases ha

/-- non-vacuity: the repaired composition in the same situation completes -/
example :
    (prun (init false 2) [.graceful, .selGraceful, .stop, .cancel, .gStop, .innerFinish, .innerStopped, .helperReturn,
        .helperJoined, .innerStopped, .cancelHandlers, .handlerExit, .handlerExit, .handlersGone]).map (·.pc) =
      some .completed := by decide +kernel

end Cqos.SimpleV1
