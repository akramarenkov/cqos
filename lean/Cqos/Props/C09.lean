import Cqos.Props.C03
/-
  Property C09 — a slice is cut short only by timeout or end of input.

  Untimed part: for join every slice that is not emitted by a ticker firing, by the
  closing of the input or by Stop has exactly JoinSize elements (run-level invariant, every
  action list); for unite the buffer is emitted before an input slice only if that slice
  would not fit (or is itself oversize), and after appending only when JoinSize is reached.
  Timed part: a ticker firing emits only when `Timeout` has elapsed since `passAt`, and every
  emission resets `passAt` (copy mode: at once; no-copy mode: at the release).
-/
namespace Cqos.C09
open Cqos.C03

/-- emissions of one step of the JOIN machine: nothing, or exactly one slice which is
    emitted by a tick, or has exactly JoinSize elements, or comes from close / Stop -/
theorem join_step_emits (s s' : JSt) (a : JAct) (hj : JInv s) (hk : s.cfg.kind = .join)
    (hs : JStep s a s') :
    (s'.out = s.out ∧ s'.byTick = s.byTick) ∨
    (∃ o b, s'.out = s.out ++ [o] ∧ s'.byTick = s.byTick ++ [b] ∧
      (b = true ∨ o.length = s.cfg.size ∨ s'.closing = true ∨ s'.stopped = true)) := by
  have hpass : ∀ (u : JSt) (t : Nat) (tk : Bool), u.out = s.out → u.byTick = s.byTick →
      ((jpass u t tk none).out = s.out ∧ (jpass u t tk none).byTick = s.byTick) ∨
      ((jpass u t tk none).out = s.out ++ [u.buf] ∧ (jpass u t tk none).byTick = s.byTick ++ [tk]) := by
    intro u t tk ho hb
    rw [jpass_out, jpass_byTick, ho, hb]
    split
    · exact Or.inl ⟨rfl, rfl⟩
    · exact Or.inr ⟨rfl, rfl⟩
  cases hs with
  | skip | idle | stop | stopRun | stopAwait | release => exact Or.inl ⟨rfl, rfl⟩
  | hold _ hu | flush _ hu | take _ hu => rw [hk] at hu; cases hu
  | resume hpc => have hu := hj.awaitSome _ _ hpc; rw [hk] at hu; cases hu
  | @join _ xs t hpc _ hx =>
    rw [jappendPath_eq]
    split
    · exact Or.inl ⟨rfl, rfl⟩
    · rename_i hlt
      rcases hpass (jappend (jlog s xs) xs t) t false rfl rfl with h | h
      · exact Or.inl h
      · refine Or.inr ⟨_, false, h.1, h.2, Or.inr (Or.inl ?_)⟩
        have := hj.small hpc
        simp [jappend, jlog] at hlt ⊢
        omega
  | @tick t =>
    rcases hpass s t true rfl rfl with h | h
    · exact Or.inl h
    · exact Or.inr ⟨_, true, h.1, h.2, Or.inl rfl⟩
  | @closeHold t | @closeDone t =>
    rcases hpass s t false rfl rfl with h | h
    · exact Or.inl h
    · exact Or.inr ⟨_, false, h.1, h.2, Or.inr (Or.inr (Or.inl rfl))⟩
  | @stopFlush t _ _ hst =>
    rcases hpass s t false rfl rfl with h | h
    · exact Or.inl h
    · exact Or.inr ⟨_, false, h.1, h.2,
        Or.inr (Or.inr (Or.inr ((jpass_frame s t false none).stopped.trans hst)))⟩

/-- closing and stopped are never reset -/
theorem flags_mono (s s' : JSt) (a : JAct) (hs : JStep s a s') :
    (s.closing = true → s'.closing = true) ∧ (s.stopped = true → s'.stopped = true) := by
  have mono : ∀ {u v : JSt}, Frame u v →
      (u.closing = true → v.closing = true) ∧ (u.stopped = true → v.stopped = true) :=
    fun f => ⟨f.closing.trans, f.stopped.trans⟩
  cases hs with
  | skip | idle | stopRun | stopAwait | release => exact ⟨id, id⟩
  | join => exact mono ((jlog_frame _ _).trans (jappendPath_frame _ _ _))
  | hold | tick => exact mono (jpass_frame _ _ _ _)
  | flush => exact mono ((jpass_frame _ _ _ _).trans (jtake_frame _ _ _ _))
  | take => exact mono (jtake_frame _ _ _ _)
  | @resume _ _ t => exact mono ((jrelease_frame s t).trans (jtake_frame _ _ _ _))
  | closeHold | closeDone => exact ⟨fun _ => rfl, (jpass_frame _ _ _ _).stopped.trans⟩
  | stop => exact ⟨id, fun _ => rfl⟩
  | stopFlush => exact ⟨(jpass_frame _ _ _ _).closing.trans, (jpass_frame _ _ _ _).stopped.trans⟩

/-- while the input is open and Stop has not been called, every slice not emitted by a ticker
    firing has exactly JoinSize elements -/
def AllExact (s : JSt) : Prop :=
  s.out.length = s.byTick.length ∧
  ((s.closing = false ∧ s.stopped = false) →
    ∀ ob ∈ List.zip s.out s.byTick, ob.2 = false → ob.1.length = s.cfg.size)

theorem exact_step (s s' : JSt) (a : JAct) (hj : JInv s) (hk : s.cfg.kind = .join) (h : AllExact s)
    (hs : JStep s a s') : AllExact s' := by
  have hcfg := hs.cfg_eq
  have hm := flags_mono s s' a hs
  have back : s'.closing = false ∧ s'.stopped = false → s.closing = false ∧ s.stopped = false := fun hf =>
    ⟨Bool.eq_false_iff.2 fun hc => absurd (hm.1 hc) (by rw [hf.1]; simp),
      Bool.eq_false_iff.2 fun hc => absurd (hm.2 hc) (by rw [hf.2]; simp)⟩
  rcases join_step_emits s s' a hj hk hs with ⟨ho, hb⟩ | ⟨o, b, ho, hb, hc⟩
  · refine ⟨by rw [ho, hb]; exact h.1, fun hf ob hob hf2 => ?_⟩
    rw [ho, hb] at hob
    rw [hcfg]
    exact h.2 (back hf) ob hob hf2
  · refine ⟨by rw [ho, hb]; simp [h.1], fun hf ob hob hf2 => ?_⟩
    rw [ho, hb, List.zip_append h.1] at hob
    simp only [List.zip_cons_cons, List.zip_nil_right, List.mem_append, List.mem_singleton] at hob
    rw [hcfg]
    rcases hob with hob | rfl
    · exact h.2 (back hf) ob hob hf2
    · simp only at hf2
      rcases hc with rfl | hlen | hcl | hst
      · cases hf2
      · exact hlen
      · simp [hf.1] at hcl
      · simp [hf.2] at hst

/-- **C09 (join, untimed): every slice except those cut by a timeout, by the end of the
    input or by Stop has exactly JoinSize elements** — in particular, without a timeout and
    before the input closes, every slice has exactly JoinSize elements (the unique greedy
    batching), for every action list. -/
theorem c09_join_exact (cfg : JCfg) (t0 : Nat) (hsz : 0 < cfg.size) (hk : cfg.kind = .join)
    (acts : List JAct) (s : JSt) (hr : jrun (jinit cfg t0) acts = some s)
    (hopen : s.closing = false) (hnstop : s.stopped = false) :
    ∀ ob ∈ List.zip s.out s.byTick, ob.2 = false → ob.1.length = cfg.size := by
  have h0 : AllExact (jinit cfg t0) := ⟨by simp [jinit], fun _ ob hob => by simp [jinit] at hob⟩
  obtain ⟨hc, _, he⟩ := jrun_induction (I := fun u => u.cfg = cfg ∧ JInv u ∧ AllExact u)
    (fun ⟨hc, hj, he⟩ hs => ⟨hs.cfg_eq.trans hc, jstep_inv _ _ _ hj hs,
      exact_step _ _ _ hj (by rw [hc]; exact hk) he hs⟩) ⟨rfl, jinit_inv cfg t0 hsz, h0⟩ hr
  have := he.2 ⟨hopen, hnstop⟩
  rw [hc] at this; exact this

/-- **C09 (no timeout, no ticks).** With `Timeout ≤ 0` a ticker firing is not even possible. -/
theorem c09_untimed_no_tick (s : JSt) (t : Nat) (h : s.cfg.timeout = 0) : jstep s (.tick t) = none := by
  cases hs : jstep s (.tick t) with
  | none => rfl
  | some s' => cases JStep.of_jstep hs with | idle _ h0 | tick _ h0 => exact absurd h h0

/-- **C09 (unite, untimed: every slice is maximal).** In copy mode, handling the input
    slice `xs` emits the accumulated buffer BEFORE `xs` only if `xs` would not have fitted
    (or is itself at least JoinSize long); otherwise `xs` is appended and the buffer is
    emitted only when it has reached JoinSize. -/
theorem c09_unite_maximal (s : JSt) (id : Nat) (xs : List Nat) (t : Nat) (hk : s.cfg.kind = .unite)
    (hc : s.cfg.noCopy = false) (hsmall : xs.length < s.cfg.size) :
    (needPass s xs = true → s.buf.length + xs.length > s.cfg.size ∧
        (jprocess s id xs t).out = s.out ++ [s.buf] ∧ (jprocess s id xs t).buf = xs) ∧
    (needPass s xs = false →
        (s.buf.length + xs.length < s.cfg.size → (jprocess s id xs t).out = s.out ∧ (jprocess s id xs t).buf = s.buf ++ xs) ∧
        (¬ s.buf.length + xs.length < s.cfg.size → s.buf ++ xs ≠ [] →
            (jprocess s id xs t).out = s.out ++ [s.buf ++ xs] ∧ (jprocess s id xs t).buf = [])) := by
  constructor
  · intro hnp
    have hf : ¬ Fits s xs := fun hf => by rw [needPass_eq_false.2 hf] at hnp; cases hnp
    obtain ⟨hb, hov⟩ := not_fitsIn.1 hf
    have e := jpass_copy_eq s t false none hb hc
    rw [jprocess_flush id t hk hf hc,
      jcont_small (jlog (jpass s t false none) xs) id xs t (by rw [e]; exact hsmall),
      jappendPath_eq, e, if_pos (by simpa [jlog] using hsmall)]
    exact ⟨by omega, rfl, rfl⟩
  · intro hnp
    rw [jprocess_take id t hk (needPass_eq_false.1 hnp), jcont_small (jlog s xs) id xs t hsmall, jappendPath_eq]
    constructor
    · intro hlt
      rw [if_pos (by simpa [jlog] using hlt)]; exact ⟨rfl, rfl⟩
    · intro hlt hne
      rw [if_neg (by simpa [jlog] using hlt), jpass_copy_eq (jappend (jlog s xs) xs t) t false none hne hc]
      exact ⟨rfl, rfl⟩

/-- **C09 (timed): a ticker firing cuts a slice short only when `Timeout` has elapsed
    since `passAt`.** -/
theorem c09_tick_needs_timeout (s s' : JSt) (t : Nat) (hs : jstep s (.tick t) = some s')
    (hem : s'.out ≠ s.out) : s.cfg.timeout ≤ t - s.passAt ∧ s.cfg.timeout ≠ 0 := by
  cases JStep.of_jstep hs with
  | idle => exact absurd rfl hem
  | tick _ h0 hge => exact ⟨hge, h0⟩

/-- **C09 (timed): every emission resets `passAt` to (at least) the reading of the emission**
    — copy mode: at once; no-copy mode: when the release arrives (a later reading).  Together
    with `c09_tick_needs_timeout`: a slice cut short by a ticker firing at reading `t` satisfies
    `t ≥ passAt + Timeout ≥ (reading of the previous emission) + Timeout`. -/
theorem c09_passAt_at_emission (s : JSt) (t : Nat) (tk : Bool) (hb : s.buf ≠ []) (hc : s.cfg.noCopy = false) :
    (jpass s t tk none).passAt = t ∧ (jpass s t tk none).emitAt = s.emitAt ++ [t] := by
  rw [jpass_copy_eq s t tk none hb hc]; exact ⟨rfl, rfl⟩

/-- the release restarts the timer, also when it resumes an interrupted `process` -/
theorem passAt_at_release (s s' : JSt) (t : Nat) (hs : jstep s (.release t) = some s') : s'.passAt = t := by
  cases JStep.of_jstep hs with
  | release => rfl
  | @resume id xs _ =>
    by_cases hbig : (jrelease s t).cfg.size ≤ xs.length
    · cases hc : (jrelease s t).cfg.noCopy with
      | true => rw [jtake_big_nocopy id t hbig hc]
      | false => rw [jtake_big_copy id t hbig hc]
    · rw [jtake_small id t (Nat.not_le.1 hbig)]
      exact jappendPath_passAt _ _ _ rfl

theorem c09_passAt_at_release (s s' : JSt) (n : Option (Nat × List Nat)) (t : Nat) (hpc : s.pc = .await n)
    (hn : n = none) (hs : jstep s (.release t) = some s') : s'.passAt = t :=
  passAt_at_release s s' t hs

example :
    (jrun (jinit ⟨.join, 3, 100, false, false⟩ 0)
      [.item 1 [1] 1, .item 2 [2] 2, .item 3 [3] 3, .item 4 [4] 4, .tick 50, .tick 200, .item 5 [5] 201]).map
      (fun s => (s.out, s.byTick, s.buf)) = some ([[1, 2, 3], [4]], [false, true], [5]) := by decide +kernel

end Cqos.C09
