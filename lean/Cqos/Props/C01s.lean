import Cqos.Simple
import Cqos.Props.C01
import Cqos.Props.C07
import Cqos.Lemmas.StepEffect
/-
  The simplified disciplines (the layered machine of Cqos/Simple.lean).  C01: the number of
  concurrently running `Handle` calls never exceeds HandlersQuantity — every action list, every
  divider, both versions.  For v2 also C07 (termination implies that every `Handle` call has
  returned, `c07_simple_v2`) and C02 (`Handle` is called exactly once per delivered item, in delivery
  order, `c02_simple_v2`), kept in this namespace with the invariant they share.
-/
namespace Cqos.C01

/-- what a transition other than a release does to the in-flight table and the deliveries: nothing,
    or (`pollItem`) one more item of some priority in flight and delivered -/
theorem step_inflight {div : DivFn} {s s' : St} {a : Act} (h : Step div s a s') (hnr : isRelease a = false) :
    (s'.inflight = s.inflight ∧ s'.delivered = s.delivered) ∨
    (∃ p c x, s'.inflight = s.inflight.add p 1 ∧ s'.delivered = s.delivered ++ [(p, c, x)]) := by
  cases step_delivery h with
  | item p inp ch x q _ _ hd hi => exact .inr ⟨p, inp.chan, x, hi, hd⟩
  | other hd hi =>
    rcases hi with hi | ⟨p, rfl, _⟩
    · exact .inl ⟨hi, hd⟩
    · cases hnr

theorem release_inv {div : DivFn} {s s' : St} {p : Nat} (h : Step div s (.release p) s') :
    s.inflight.get p ≠ 0 ∧
      s' = { s with inflight := s.inflight.set p (s.inflight.get p - 1), pending := s.pending ++ [p] } := by
  cases h with
  | release hne => exact ⟨hne, rfl⟩
  | own _ ho =>
    cases ho with
    | goto hg => nomatch hg
    | consume _ _ hk | wrap _ _ hk => nomatch hk

theorem sstep_cases {div : DivFn} {s s' : SimpleSt} {a : SAct} (h : sstep div s a = some s') :
    (∃ b i, a = .inner b ∧ isRelease b = false ∧ Step div s.inner b i ∧ s' = { s with inner := i }) ∨
    (∃ d, a = .take ∧ s.inner.delivered[s.picked]? = some d ∧
      s' = { s with handling := d.1 :: s.handling, picked := s.picked + 1, handled := s.handled ++ [d] }) ∨
    (∃ p, a = .finish p ∧ p ∈ s.handling ∧ s.inner.inflight.get p ≠ 0 ∧
      s' = { s with handling := s.handling.erase p,
                    inner := { s.inner with inflight := s.inner.inflight.set p (s.inner.inflight.get p - 1),
                                            pending := s.inner.pending ++ [p] } }) := by
  cases a with
  | inner b =>
    simp only [sstep] at h
    split at h
    · cases h
    · rename_i hnr
      obtain ⟨i, hi, rfl⟩ := Option.map_eq_some_iff.1 h
      exact .inl ⟨b, i, rfl, by simpa using hnr, step_sound hi, rfl⟩
  | take =>
    simp only [sstep] at h
    split at h
    · rename_i d hd; cases h; exact .inr (.inl ⟨d, rfl, hd, rfl⟩)
    · cases h
  | finish p =>
    simp only [sstep] at h
    split at h
    · rename_i hmem
      obtain ⟨i, hi, rfl⟩ := Option.map_eq_some_iff.1 h
      obtain ⟨hne, rfl⟩ := release_inv (step_sound hi)
      exact .inr (.inr ⟨p, rfl, hmem, hne, rfl⟩)
    · cases h

theorem srun_eq_foldlM (div : DivFn) (s : SimpleSt) (acts : List SAct) : srun div s acts = acts.foldlM (sstep div) s :=
  eq_foldlM (sstep div) (srun div) (fun _ => rfl) (fun s a _ => by rw [srun]; cases sstep div s a <;> rfl) s acts

theorem srun_cons_iff {div : DivFn} {u s : SimpleSt} {a : SAct} {as : List SAct} :
    srun div u (a :: as) = some s ↔ ∃ u1, sstep div u a = some u1 ∧ srun div u1 as = some s := by
  simp only [srun_eq_foldlM, foldlM_cons_some]

theorem srun_append_iff {div : DivFn} {u s : SimpleSt} {l1 l2 : List SAct} :
    srun div u (l1 ++ l2) = some s ↔ ∃ u1, srun div u l1 = some u1 ∧ srun div u1 l2 = some s := by
  simp only [srun_eq_foldlM, foldlM_append_some]

theorem srun_induction {div : DivFn} {I : SimpleSt → Prop} (hstep : ∀ s a s', I s → sstep div s a = some s' → I s')
    {acts : List SAct} {u s : SimpleSt} (h : I u) (hr : srun div u acts = some s) : I s :=
  foldlM_induction hstep h (srun_eq_foldlM div u acts ▸ hr)

/-- what the handlers hold accounts for everything in flight -/
structure SInv (base : Nat) (s : SimpleSt) : Prop where
  picked_le : s.picked ≤ s.inner.delivered.length
  account : s.inner.inflight.total + s.picked = s.inner.delivered.length + s.handling.length
  /-- `Handle` was called exactly for the delivered items picked up so far, once each, in order
      (`base` = what had been delivered before the handlers started) -/
  handledOK : base ≤ s.picked ∧ s.handled = (s.inner.delivered.take s.picked).drop base

theorem sinit_inv {s0 : St} (h0 : Fresh s0) : SInv s0.delivered.length (sinit s0) :=
  ⟨Nat.le_refl _, by
    show s0.inflight.total + s0.delivered.length = s0.delivered.length + 0
    rw [h0.2.1]; simp [Dist.total], Nat.le_refl _, by simp [sinit]⟩

theorem sstep_inv (div : DivFn) (base : Nat) (s s' : SimpleSt) (a : SAct) (h : SInv base s) (hs : sstep div s a = some s') : SInv base s' := by
  obtain ⟨hpk, hacc, hb, hh⟩ := h
  rcases sstep_cases hs with ⟨b, i, rfl, hnr, hi, rfl⟩ | ⟨d, rfl, hd, rfl⟩ | ⟨p, rfl, hmem, hne, rfl⟩
  · -- the inner machine moves: the deliveries already picked up are a prefix that stays
    rcases step_inflight hi hnr with ⟨e1, e2⟩ | ⟨p, c, x, e1, e2⟩
    · exact ⟨by show s.picked ≤ i.delivered.length; rw [e2]; exact hpk,
        by show i.inflight.total + _ = _ + _; rw [e1, e2]; exact hacc, hb, by show s.handled = _; rw [e2]; exact hh⟩
    · refine ⟨?_, ?_, hb, ?_⟩
      · show s.picked ≤ i.delivered.length
        rw [e2, List.length_append]; exact Nat.le_add_right_of_le hpk
      · show i.inflight.total + s.picked = i.delivered.length + s.handling.length
        rw [e1, e2, Dist.total_add, List.length_append, List.length_singleton]; omega
      · show s.handled = (i.delivered.take s.picked).drop base
        rw [e2, List.take_append_of_le_length hpk]; exact hh
  · have hlt : s.picked < s.inner.delivered.length := (List.getElem?_eq_some_iff.mp hd).1
    have hd' : s.inner.delivered[s.picked] = d := (List.getElem?_eq_some_iff.mp hd).2
    refine ⟨hlt, ?_, Nat.le_succ_of_le hb, ?_⟩
    · show s.inner.inflight.total + (s.picked + 1) = s.inner.delivered.length + (s.handling.length + 1)
      omega
    · show s.handled ++ [d] = (s.inner.delivered.take (s.picked + 1)).drop base
      rw [List.take_succ_eq_append_getElem hlt, hd',
        List.drop_append_of_le_length (by rw [List.length_take, Nat.min_eq_left hpk]; exact hb), hh]
  · have ht := Dist.total_set s.inner.inflight p (s.inner.inflight.get p - 1)
    have hl := List.length_erase_of_mem hmem
    have hpos : 0 < s.handling.length := List.length_pos_of_mem hmem
    refine ⟨hpk, ?_, hb, hh⟩
    show (s.inner.inflight.set p (s.inner.inflight.get p - 1)).total + s.picked =
      s.inner.delivered.length + (s.handling.erase p).length
    omega

theorem srun_inv (div : DivFn) (base : Nat) (acts : List SAct) (u s : SimpleSt) (h : SInv base u) (hr : srun div u acts = some s) : SInv base s :=
  srun_induction (fun s a s' => sstep_inv div base s s' a) h hr

/-- what the inner machine sees of a layered run -/
def innerActs : List SAct → List Act
  | [] => []
  | .inner a :: r => a :: innerActs r
  | .take :: r => innerActs r
  | .finish p :: r => .release p :: innerActs r

/-- the simulation: whatever holds after every run of the scheduler machine holds of the inner
    component after every run of the layered machine -/
theorem srun_run (div : DivFn) (acts : List SAct) (u s : SimpleSt) (hr : srun div u acts = some s) :
    run div u.inner (innerActs acts) = some s.inner := by
  induction acts generalizing u with
  | nil => cases hr; rfl
  | cons a as ih =>
    obtain ⟨u1, hu1, hr⟩ := srun_cons_iff.1 hr
    have := ih u1 hr
    rcases sstep_cases hu1 with ⟨b, i, rfl, _, hi, rfl⟩ | ⟨d, rfl, _, rfl⟩ | ⟨p, rfl, _, hne, rfl⟩
    · exact run_cons_iff.2 ⟨i, hi, this⟩
    · exact this
    · exact run_cons_iff.2 ⟨_, .release hne, this⟩

/-- **C01 (simplified disciplines).** For every run of the layered machine — any divider, any
    arrivals, any speed of the handlers, v1 or v2 — the number of `Handle` calls running at the
    same time is at most HandlersQuantity. -/
theorem c01_simple_handlers (div : DivFn) (s0 : St) (h0 : Fresh s0) (acts : List SAct) (s : SimpleSt)
    (hr : srun div (sinit s0) acts = some s) : s.handling.length ≤ s0.cfg.H := by
  have hinv := run_inv (fresh_inv h0) (srun_run div acts _ s hr)
  have hc : s.inner.cfg = s0.cfg := run_cfg (srun_run div acts _ s hr)
  have hi := srun_inv div _ acts _ s (sinit_inv h0) hr
  have h1 := inflight_le_actual hinv
  have h2 := capOk_weaken hinv.cap
  have := hi.account
  have := hi.picked_le
  rw [hc] at h2
  omega

/-- **C07 (v2 simplified discipline): termination implies that every `Handle` call has
    returned** — and that every delivered item was handled. -/
theorem c07_simple_v2 (div : DivFn) (keys : List (Nat × Bool)) (H : Nat) (hnd : (keys.map (·.1)).Nodup)
    (s0 : St) (h0 : initV2 div keys H = .ok s0) (acts : List SAct) (s : SimpleSt)
    (hr : srun div (sinit s0) acts = some s) (e : Option Err) (hdone : s.inner.pc = .done e) :
    s.handling = [] ∧ s.picked = s.inner.delivered.length := by
  obtain ⟨hf, _⟩ := initV2_fresh div keys H s0 h0
  have hrun := srun_run div acts (sinit s0) s hr
  have hzero := (C07.c07_v2_only_then div keys H hnd s0 s.inner (innerActs acts) h0 hrun e hdone).1
  have hi := srun_inv div s0.delivered.length acts (sinit s0) s (sinit_inv hf) hr
  have hacc := hi.account
  have hle := hi.picked_le
  rw [hzero] at hacc
  exact ⟨List.eq_nil_of_length_eq_zero (by omega), by omega⟩

/-- **C02 (v2 simplified discipline): `Handle` is invoked exactly once per delivered item, in
    delivery order** — at every moment the `Handle` calls made so far are exactly the delivered
    items the handlers have picked up, and when the discipline has terminated they are all of
    them (with C02 on the scheduler machine: exactly the items written to the inputs). -/
theorem c02_simple_v2 (div : DivFn) (keys : List (Nat × Bool)) (H : Nat) (hnd : (keys.map (·.1)).Nodup)
    (s0 : St) (h0 : initV2 div keys H = .ok s0) (acts : List SAct) (s : SimpleSt)
    (hr : srun div (sinit s0) acts = some s) :
    s.handled = s.inner.delivered.take s.picked ∧ (∀ e, s.inner.pc = .done e → s.handled = s.inner.delivered) := by
  obtain ⟨hf, _⟩ := initV2_fresh div keys H s0 h0
  have hd0 : s0.delivered = [] := by obtain ⟨_, _, rfl⟩ := initV2_ok h0; rfl
  have hi := srun_inv div s0.delivered.length acts (sinit s0) s (sinit_inv hf) hr
  have hh := hi.handledOK.2
  rw [hd0] at hh
  simp only [List.length_nil, List.drop_zero] at hh
  refine ⟨hh, fun e hdone => ?_⟩
  have := (c07_simple_v2 div keys H hnd s0 h0 acts s hr e hdone).2
  rw [hh, this, List.take_length]

end Cqos.C01
