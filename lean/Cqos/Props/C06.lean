import Cqos.Props.C15
import Cqos.Lemmas.V2
/-
  Property C06 — progress: no deadlock or starvation while handlers release.

  Safety-shaped statements proved for every action list: the discipline never waits for a release
  while nothing is in flight (`c06_never_waits_idle`; of either version while the shares in force
  add up to H: `WG`, kept by every transition), what `calcTactic` allots then (`c06_calc_idle`),
  that the priority whose turn it is is served (`c06_head_served`), and what a priority alone in
  having data receives (`c06_recalc_alone`).  For v2 `strategic` sums to H over the configured
  priorities, which `New` establishes for sum-rule dividers, and every share is ≥ 1 after the
  repair of D2.

  The eventuality itself ("every item is eventually delivered") additionally needs fairness
  of the Go scheduler and of the handlers — not modelled (partial).  v1 has no constructor
  check for zero shares; with a zero share v1 starves that priority (recorded known finding
  F1), which is why the statements carry the `strategic p ≥ 1` hypothesis explicitly.
-/
namespace Cqos.C06

/-- an action of the discipline itself (not of its environment) -/
def isOwn : Act → Bool
  | .arrive _ _ | .close _ | .release _ | .stop | .graceful => false
  | _ => true

/-- with nothing in flight `calcTactic` proceeds, allotting every priority its share -/
theorem c06_calc_idle (div : DivFn) (s : St) (hsum : sumOver s.prios s.strategic = s.cfg.H)
    (hH : 0 < s.cfg.H) (hidle : s.actual.total = 0) :
    (stepCalc div s).pc = .prio 1 s.prios ∧ ∀ p ∈ s.prios, (stepCalc div s).tactic.get p = s.strategic.get p := by
  have hz : ∀ p, s.actual.get p = 0 := fun p => by have := Dist.get_le_total s.actual p; omega
  have hsa : sumOver s.prios s.actual = 0 := sumOver_eq_zero (fun p _ => hz p)
  obtain ⟨t', hr, h2, _, _⟩ := calcTacticWith_addUp (div s.calls) s.prios s.actual s.strategic s.tactic
    (s.cfg.H - s.actual.total) (fun p _ => by rw [hz p]; omega) (by omega) (by omega)
  simp only [stepCalc_of_le (show s.actual.total ≤ s.cfg.H by omega), hr]
  exact ⟨trivial, fun p hp => by show t'.get p = _; rw [h2 p hp, hz p]; rfl⟩

theorem calc_wait_busy (div : DivFn) (s : St) (hsum : sumOver s.prios s.strategic = s.cfg.H)
    (hH : 0 < s.cfg.H) (hw : (stepCalc div s).pc = .waitFb) : 0 < (stepCalc div s).actual.total := by
  rw [stepCalc_eq]
  show 0 < s.actual.total
  by_cases hidle : s.actual.total = 0
  · rw [(c06_calc_idle div s hsum hH hidle).1] at hw; cases hw
  · omega

end Cqos.C06

/-
  "Never waits idle" of either version, under the name of C07: `c06_never_waits_idle` below is the
  instance for v2, and the promptness of a graceful v1 stop (C07g) needs it of v1.
-/
namespace Cqos

/-- "never waits idle", in a form that needs no global hypothesis on the divider: IF the shares
    that are in force add up to `H`, a discipline blocked in `waitCalcTactic` has something in
    flight (v1's shares are recomputed by every AddInput / RemoveInput, at the loop top only) -/
def C07.WG (s : St) : Prop :=
  s.pc = .waitFb → sumOver s.prios s.strategic = s.cfg.H → 0 < s.cfg.H → 0 < s.actual.total

/-- only `calcTactic` sends the discipline waiting, and then something is in flight -/
theorem Step.wg {div : DivFn} {s s' : St} {a : Act} (hs : Step div s a s') (h : C07.WG s) : C07.WG s' := by
  cases hs with
  | own hpc ho =>
    cases ho with
    | goto hg => intro hu; cases hg <;> cases hu
    | «calc» =>
      intro hu hsum hH
      rw [stepCalc_eq] at hsum hH
      exact C06.calc_wait_busy div s hsum hH hu
    | recalc => intro hu; rcases stepRecalc_pc div s with e | e | ⟨_, e⟩ <;> exact nomatch e.symm.trans hu
    | consume _ _ hk =>
      cases hk with
      | waitFb => intro hu; rcases afterWaitFb_pc _ with e | e <;> exact nomatch e.symm.trans hu
      | drain _ => exact fun hu => nomatch hpc.symm.trans hu
      | _ => exact nofun
    | pollItem _ _ | pollDrop _ _ _ _ => exact fun hu => nomatch hpc.symm.trans hu
    | limitedStop | limitedSeen _ _ => intro hu; rcases nextRound_pc s with e | e <;> exact nomatch e.symm.trans hu
    | _ => exact nofun
  | _ => exact h

theorem C07.wg_step (div : DivFn) (s s' : St) (a : Act) (hinv : Inv s) (hw : C15.WF s) (h : WG s)
    (hs : step div s a = some s') : WG s' :=
  (step_sound hs).wg h

theorem C07.wg_run (div : DivFn) (acts : List Act) (s s' : St) (hinv : Inv s) (hw : C15.WF s) (h : WG s)
    (hr : run div s acts = some s') : WG s' :=
  run_induction (fun hi ht => ht.wg hi) h hr

/-- `divider.Fair` as a divider function of the machine: the same on every call -/
def C07.f1div : DivFn := fun _ => fair

end Cqos

namespace Cqos.C06

/-- **C06 (the discipline never waits for a release with nothing in flight).**  After any run
    of a v2 discipline whose strategic shares add up to H: if it is blocked waiting for a
    release, at least one delivered item has not been released-and-consumed yet. -/
theorem c06_never_waits_idle (div : DivFn) (keys : List (Nat × Bool)) (H : Nat) (hH : 0 < H)
    (hnd : (keys.map (·.1)).Nodup) (s0 s : St) (acts : List Act) (h0 : initV2 div keys H = .ok s0)
    (hsum : sumOver s0.prios s0.strategic = H) (hr : run div s0 acts = some s) (hwait : s.pc = .waitFb) :
    0 < s.inflight.total + s.pending.length := by
  have hinv0 := C01.fresh_inv (C01.initV2_fresh div keys H s0 h0).1
  have hH0 := initV2_H h0
  -- the shares in force are those of `New`: v2 never changes them
  obtain ⟨c1, c2, c3, _⟩ := C07.v2_static_run div acts s0 s (initV2_v1 h0) hr
  have hwg := C07.wg_run div acts s0 s hinv0 (C15.wf_initV2 div keys H s0 hnd h0)
    (fun hp => by rw [initV2_pc h0] at hp; cases hp) hr
  exact (C01.run_inv hinv0 hr).core.tot ▸ hwg hwait (by rw [c1, c2, c3, hH0]; exact hsum) (by rw [c3, hH0]; exact hH)

/-- **C06 (the priority whose turn it is, with data and a positive allotment, is served).**
    In `prioritize`, when the head priority is registered, not drained, has a positive
    allotment and a buffered channel with a waiting item: delivering that item is enabled,
    and neither skipping it nor giving up on it nor marking it drained is. -/
theorem c06_head_served (s : St) (ph p : Nat) (rest : List Nat) (inp : Input) (ch : Chan) (x : Nat) (q : List Nat)
    (hin : alGet s.inputs p = some inp) (hnd : inp.drained = false) (ht : s.tactic.get p ≠ 0)
    (hch : alGet s.chans inp.chan = some ch) (hq : ch.queue = x :: q) (hb : ch.buffered = true) :
    (∃ s', stepPoll s ph p rest .pollItem = some s' ∧ s'.delivered = s.delivered ++ [(p, inp.chan, x)]) ∧
    stepPoll s ph p rest .skip = none ∧ stepPoll s ph p rest .pollEmpty = none ∧
    stepPoll s ph p rest .pollClosed = none := by
  have hc : ¬ (inp.drained = true ∨ s.tactic.get p = 0) := by rw [hnd]; simp [ht]
  refine ⟨?_, ?_, ?_, ?_⟩
  · simp only [stepPoll, hin, hc, if_false, hch, hq]
    exact ⟨_, rfl, rfl⟩
  · simp [stepPoll, hin, hc, hch]
  · simp [stepPoll, hin, hc, hch, hq, hb]
  · simp [stepPoll, hin, hc, hch, hq]

theorem filter_eq_singleton {ps : List Nat} {f : Nat → Bool} {q : Nat} (hq : q ∈ ps) (hnd : ps.Nodup)
    (hf : f q = true) (hn : ∀ r ∈ ps, r ≠ q → f r = false) : ps.filter f = [q] := by
  induction ps with
  | nil => cases hq
  | cons p ps ih =>
    have hn' := List.nodup_cons.1 hnd
    by_cases hpq : p = q
    · subst hpq
      rw [List.filter_cons, if_pos hf]
      congr 1
      exact List.filter_eq_nil_iff.2 fun r hr => by
        rw [hn r (List.mem_cons_of_mem _ hr) (fun e => hn'.1 (e ▸ hr))]; simp
    · rw [List.filter_cons, if_neg (by rw [hn p (by simp) hpq]; simp)]
      exact ih (by simpa [Ne.symm hpq] using hq) hn'.2 (fun r hr => hn r (List.mem_cons_of_mem _ hr))

/-- **C06 (a priority alone in having data is granted the whole remainder).**
    After the first phase: priority `q` used up its allotment (`tactic q = 0`), every other
    priority still has its full unused allotment and nothing in flight.  Then `recalcTactic`
    — with a divider that gives a single priority everything — hands `q` the entire unused
    remainder for the second phase, and nobody else anything. -/
theorem c06_recalc_alone (div : DivFn) (i H : Nat) (prios : List Nat) (actual tactic : Dist) (q : Nat)
    (hsingle : ∀ j d m k, (div j [q] d m).get k = m.get k + (if k = q then d else 0))
    (hsum1 : ∀ j d m, (div j [q] d m).total = m.total + d)
    (hq : q ∈ prios) (hP : prios.Nodup) (hzero : tactic.get q = 0)
    (hothers : ∀ p ∈ prios, p ≠ q → tactic.get p ≠ 0)
    (hroom : actual.get q < H) (hrem : 0 < tactic.total) :
    let r := recalcTacticWith div i H prios actual tactic
    r.verdict = .ok true ∧ r.tactic.get q = tactic.total ∧ ∀ p, p ≠ q → r.tactic.get p = 0 := by
  have hu1 : useful1 prios tactic = [q] :=
    filter_eq_singleton hq hP (by simp [hzero]) (fun r hr hne => by simpa using hothers r hr hne)
  have ht1 : ∀ k, (div i [q] H tactic.zeroAll).get k = if k = q then H else 0 := fun k => by rw [hsingle]; simp
  have hu2 : useful2 prios actual (div i [q] H tactic.zeroAll) = [q] :=
    filter_eq_singleton hq hP (by simp [ht1, hroom]) (fun r _ hne => by simp [ht1, hne])
  have hfin : ∀ k, (div (i + 1) [q] tactic.total (div i [q] H tactic.zeroAll).zeroAll).get k =
      if k = q then tactic.total else 0 := fun k => by rw [hsingle]; simp
  have hr := recalcTacticWith_ok (div := div) (i := i) (H := H) (prios := prios) (actual := actual) (tactic := tactic)
    rfl (Or.inl (by rw [hu1, hsum1]; simp)) rfl (Or.inl (by rw [hu1, hu2, hsum1]; simp))
  rw [hu1, hu2] at hr
  simp only [hr]
  refine ⟨?_, by rw [hfin, if_pos rfl], fun p hp => by rw [hfin, if_neg hp]⟩
  simp only [filledFor, List.all_cons, List.all_nil, Bool.and_true, hfin, if_true]
  simp; omega

def queueLen (s : St) (c : Nat) : Nat := match alGet s.chans c with | some ch => ch.queue.length | none => 0

/-- Known finding F1 as a theorem about the v1 model: with a zero share the allotment of the
    starving priority stays 0 in both phases although it is the only one with data — v1 has
    no constructor check that would reject the configuration. -/
theorem c06_v1_zero_share_starves :
    let div : DivFn := fun _ => fair
    let s0 := initV1 div [(3, true), (2, true), (1, true)] 1
    (run div s0 [.arrive 1 7, .top .none, .calc, .pollEmpty, .skip, .skip, .recalc, .skip, .pollEmpty, .skip,
        .endRound, .limitedStop]).map (fun s => (s.delivered, s.strategic, (queueLen s 1)))
      = some ([], [(3, 1), (2, 0), (1, 0)], 1) := by decide +kernel

end Cqos.C06
