import Cqos.Props.C12
import Cqos.Lemmas.Batched
/-
  Property C04 — limit: the output never exceeds Quantity per Interval.

  On the machine of `v2/limit` (Cqos/Limit.lean), whose enabling conditions contain the two
  runtime assumptions `ClockOK` (clock readings never decrease; `time.Sleep(d)` returns no
  earlier than after `d`), for EVERY action list — i.e. however irregularly the input
  arrives and however the consumer reads.  All bounds are read off `WInv`: consecutive batch
  starts are at least `Interval` apart, and element `i` leaves between the starts of batches
  `⌊i/Q⌋` and `⌊i/Q⌋+1`.

  "Left its output" is the completion of the discipline's own send; a consumer that lets
  the `1 + cap(input)` output buffer fill and drains it later sees a burst of its own making.
  Partial: `ClockOK` is an assumption about the Go runtime.
-/
namespace Cqos.C04
open Cqos.C12

/-- where the batch starts are, relative to the machine's position -/
def wlocOK (s : LSt) : Prop :=
  match s.pc with
  | .idle => s.starts.length = s.sleeps.length ∧
      ∀ b v, b + 1 = s.starts.length → s.starts[b]? = some v → v + s.cfg.interval ≤ s.now
  | .batch _ st => s.starts.length = s.sleeps.length + 1 ∧ s.starts[s.sleeps.length]? = some st
  | .holding _ st _ => s.starts.length = s.sleeps.length + 1 ∧ s.starts[s.sleeps.length]? = some st
  | .sleeping u => s.starts.length = s.sleeps.length ∧
      ∀ b v, b + 1 = s.starts.length → s.starts[b]? = some v → v + s.cfg.interval ≤ u
  | .done => True

structure WInv (s : LSt) : Prop where
  wloc : wlocOK s
  sentLe : ∀ e ∈ s.sent, e.2 ≤ s.now
  t0Le : s.t0 ≤ s.now
  startsGe : ∀ v ∈ s.starts, s.t0 ≤ v
  sorted : s.sent.Pairwise (fun a b => a.2 ≤ b.2)
  /-- a batch forwards at most Quantity elements -/
  batches : s.sent.length ≤ s.cfg.quantity * s.starts.length
  /-- element `i` leaves between the starts of batches `⌊i/Q⌋` and `⌊i/Q⌋+1`, and consecutive
      starts are at least Interval apart -/
  batched : Batched s.cfg.quantity s.cfg.interval s.starts s.sent

theorem winv_init (cfg : LCfg) (t0 : Nat) : WInv (linit cfg t0) :=
  ⟨⟨rfl, nofun⟩, nofun, Nat.le_refl _, nofun, .nil, Nat.zero_le _, .nil⟩

theorem wstep_inv {s s' : LSt} {a : LAct} (hl : LInv s) (h : WInv s) (hs : LStep s a s') : WInv s' := by
  have hloc := h.wloc
  cases hs with
  | start t hpc hle =>
    simp only [wlocOK, hpc] at hloc
    have hnew : ∀ e ∈ s.sent, e.2 ≤ t := fun e he => Nat.le_trans (h.sentLe e he) hle
    exact { h with
      wloc := ⟨by simp [hloc.1], getElem?_concat.2 (.inr ⟨hloc.1.symm, rfl⟩)⟩
      sentLe := hnew
      t0Le := Nat.le_trans h.t0Le hle
      startsGe := List.forall_mem_append.2 ⟨h.startsGe, List.forall_mem_singleton.2 (Nat.le_trans h.t0Le hle)⟩
      batches := Nat.le_trans h.batches (Nat.mul_le_mul_left _ (by simp))
      batched := h.batched.start hnew fun b v hb hv => Nat.le_trans (hloc.2 b v hb hv) hle }
  | recv k st x hpc hkq =>
    simp only [wlocOK, hpc] at hloc
    exact { h with wloc := hloc }
  | closed k st hpc hkq => exact { h with wloc := trivial }
  | sent k st x t hpc hle =>
    simp only [wlocOK, hpc] at hloc
    obtain ⟨hh, hst, e⟩ := hl.holding hpc
    have hnew : ∀ e ∈ s.sent, e.2 ≤ t := fun e he => Nat.le_trans (h.sentLe e he) hle
    exact { h with
      wloc := hloc
      sentLe := List.forall_mem_append.2 ⟨hnew, List.forall_mem_singleton.2 (Nat.le_refl t)⟩
      t0Le := Nat.le_trans h.t0Le hle
      sorted := List.pairwise_append.2 ⟨h.sorted, List.pairwise_singleton .., fun a ha b hb => by
        cases List.mem_singleton.1 hb; exact hnew a ha⟩
      batches := by
        rw [List.length_append, List.length_singleton, hloc.1, Nat.mul_succ, e]
        exact Nat.add_lt_add_left hh _
      batched := h.batched.send (hl.div_eq hpc) hloc.1 hloc.2 (Nat.le_trans hst hle) }
  | batchEnd k st t hpc hkq hle =>
    simp only [wlocOK, hpc] at hloc
    refine { h with
      wloc := ⟨by simp [hloc.1], fun b v hb hv => ?_⟩
      sentLe := fun e he => Nat.le_trans (h.sentLe e he) hle
      t0Le := Nat.le_trans h.t0Le hle }
    -- the last start is that of the batch just ended
    have : b = s.sleeps.length := Nat.succ.inj (hb.trans hloc.1)
    cases (this ▸ hv).symm.trans hloc.2
    exact Nat.le_max_right ..
  | wake u t hpc hu hle =>
    simp only [wlocOK, hpc] at hloc
    exact { h with
      wloc := ⟨hloc.1, fun b v hb hv => Nat.le_trans (hloc.2 b v hb hv) hu⟩
      sentLe := fun e he => Nat.le_trans (h.sentLe e he) hle
      t0Le := Nat.le_trans h.t0Le hle }

/-- what is known of every state the machine reaches from `linit cfg t0` -/
theorem wrun_inv {cfg : LCfg} {t0 : Nat} {acts : List LAct} {s : LSt} (hr : lrun (linit cfg t0) acts = some s) :
    s.cfg = cfg ∧ s.t0 = t0 ∧ LInv s ∧ WInv s :=
  lrun_induction (I := fun s => s.cfg = cfg ∧ s.t0 = t0 ∧ LInv s ∧ WInv s)
    (fun ⟨hc, ht, hl, hw⟩ hs => ⟨hs.cfg_eq.trans hc, hs.t0_eq.trans ht, lstep_inv hl hs, wstep_inv hl hw hs⟩)
    ⟨rfl, rfl, linv_init cfg t0, winv_init cfg t0⟩ hr

/-- **C04 (per element).** The i-th element (0-based) that leaves the output does so at a
    clock reading `≥ t0 + ⌊i/Quantity⌋·Interval`. -/
theorem c04_item_time (cfg : LCfg) (t0 : Nat) (hq : 0 < cfg.quantity) (acts : List LAct) (s : LSt)
    (hr : lrun (linit cfg t0) acts = some s) (i : Nat) (hi : i < s.sent.length) :
    t0 + (i / cfg.quantity) * cfg.interval ≤ (s.sent[i]).2 := by
  obtain ⟨rfl, rfl, _, hw⟩ := wrun_inv hr
  exact hw.batched.item_ge hw.startsGe (List.getElem?_eq_getElem hi)

/-- **C04 (cumulative).** By clock reading `T`, at most
    `Quantity·(⌊(T − t0)/Interval⌋ + 1)` elements have left the output. -/
theorem c04_cumulative (cfg : LCfg) (t0 : Nat) (hq : 0 < cfg.quantity) (hI : 0 < cfg.interval)
    (acts : List LAct) (s : LSt) (hr : lrun (linit cfg t0) acts = some s) (T : Nat) :
    (s.sent.filter (fun e => decide (e.2 ≤ T))).length ≤ cfg.quantity * ((T - t0) / cfg.interval + 1) := by
  obtain ⟨rfl, rfl, _, hw⟩ := wrun_inv hr
  exact hw.batched.cumulative hq hI hw.startsGe T

/-- **C04 (a batch forwards at most Quantity elements; batches are Interval apart).**
    At every moment at most `Quantity·(number of batches started)` elements have been sent, and
    the k-th batch (0-based) started at a reading `≥ t0 + k·Interval`. -/
theorem c04_batches (cfg : LCfg) (t0 : Nat) (hq : 0 < cfg.quantity) (acts : List LAct) (s : LSt)
    (hr : lrun (linit cfg t0) acts = some s) (hnd : s.pc ≠ .done) :
    s.sent.length ≤ cfg.quantity * s.starts.length := by
  obtain ⟨rfl, rfl, _, hw⟩ := wrun_inv hr
  exact hw.batches

/-- **C04 (window, index form).** If elements `i ≤ j` left the output at readings at most `W`
    apart, then `j − i + 1 ≤ Quantity·(⌊W/Interval⌋ + 2)`: no window of length `W` contains
    more output elements than that, for every action list. -/
theorem c04_window (cfg : LCfg) (t0 : Nat) (hq : 0 < cfg.quantity) (hI : 0 < cfg.interval)
    (acts : List LAct) (s : LSt) (hr : lrun (linit cfg t0) acts = some s)
    (i j : Nat) (hij : i ≤ j) (hj : j < s.sent.length) (W : Nat)
    (hW : (s.sent[j]).2 ≤ (s.sent[i]'(by omega)).2 + W) :
    j - i + 1 ≤ cfg.quantity * (W / cfg.interval + 2) := by
  obtain ⟨rfl, rfl, _, hw⟩ := wrun_inv hr
  exact Nat.sub_lt_left_of_lt_add hij
    (hw.batched.window hq hI (List.getElem?_eq_getElem _) (List.getElem?_eq_getElem hj) hW)

/-- **C04 (window).** For every action list, every `a` and every `W`: the number of elements
    that left the output at a clock reading in `[a, a + W]` is at most
    `Quantity·(⌊W/Interval⌋ + 2)`. -/
theorem c04_window_count (cfg : LCfg) (t0 : Nat) (hq : 0 < cfg.quantity) (hI : 0 < cfg.interval)
    (acts : List LAct) (s : LSt) (hr : lrun (linit cfg t0) acts = some s) (a W : Nat) :
    (s.sent.filter (fun e => decide (a ≤ e.2 ∧ e.2 ≤ a + W))).length ≤ cfg.quantity * (W / cfg.interval + 2) := by
  obtain ⟨rfl, rfl, _, hw⟩ := wrun_inv hr
  exact hw.batched.window_count_delayed (δ := 0) hq hI
    (fun i hi => ⟨_, List.getElem?_eq_getElem hi, Nat.le_refl _, Nat.le_refl _⟩) a W

/-- the elements leave the output in clock order (so the elements inside a time window are a
    contiguous index range, to which `c04_window` applies) -/
theorem c04_sent_sorted (cfg : LCfg) (t0 : Nat) (acts : List LAct) (s : LSt)
    (hr : lrun (linit cfg t0) acts = some s) :
    s.sent.Pairwise (fun a b => a.2 ≤ b.2) ∧ ∀ e ∈ s.sent, e.2 ≤ s.now :=
  have ⟨_, _, _, hw⟩ := wrun_inv hr
  ⟨hw.sorted, hw.sentLe⟩

/-! Non-vacuity: Quantity 2, Interval 100: element 2 (third) leaves at 102 ≥ 0 + 1·100. -/
example :
    (lrun (linit ⟨2, 100⟩ 0)
      [.start 1, .recv 10, .sent 2, .recv 11, .sent 3, .batchEnd 4, .wake 101, .start 101, .recv 12, .sent 102]).map
      (fun s => s.sent) = some [(10, 2), (11, 3), (12, 102)] := by decide +kernel

/-- the Sleep assumption is what forbids an early wake -/
example : lstep { linit ⟨2, 100⟩ 0 with pc := .sleeping 101, now := 4 } (.wake 50) = none := by decide

/-- non-vacuity of the window form: `Quantity = 2`, `Interval = 10`; the last two elements of one
    batch and the first of the next leave within one reading of each other (9, 9, 10), three
    elements in a window of length 1, where the bound is `2·(⌊1/10⌋ + 2) = 4` -/
example :
    ∃ s, lrun (linit ⟨2, 10⟩ 0) [.start 0, .recv 1, .sent 9, .recv 2, .sent 9, .batchEnd 9, .wake 10,
        .start 10, .recv 3, .sent 10] = some s ∧ s.sent = [(1, 9), (2, 9), (3, 10)] := by
  refine ⟨_, rfl, rfl⟩

end Cqos.C04
