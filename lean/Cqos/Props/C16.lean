import Cqos.Props.C07
import Cqos.Props.C08
import Cqos.Lemmas.Iter
/-
  Property C16 — v1: Stop / cancel always completes, closes the output, delivers nothing new.

  On the v1 scheduler machine (the tree with the repaired `waitCalcTactic`, defect D3):
  once the stop signal is visible (`stopped`), in EVERY non-terminated state the discipline
  has an enabled step, and taking the stop branch wherever a `select` offers it
  (`stopAct`) strictly decreases a measure bounded by `7 + 2·#priorities`, changes no
  delivery, and ends in `done`.  No state ignores the stop signal: all handlers busy, the
  consumer not reading, producers blocked, the release never sent.
  What is NOT proved is the time Go's `select` needs to pick the ready stop case among other
  ready cases (probabilistic fairness of the runtime) — partial.

  For v1 join: the stop branch is enabled in `run` and in `await` and leads to `done`, after
  which the event log is frozen (C08).
-/
namespace Cqos.C16

/-- take the stop branch wherever it is offered; otherwise the only possible step -/
def stopAct (s : St) : Option Act :=
  match s.pc with
  | .top => some (.top .stop)
  | .calc => some .calc
  | .waitFb => some .stopSeen
  | .prio ph [] => if ph = 1 then some .recalc else some .endRound
  | .prio _ (p :: _) =>
    (match alGet s.inputs p with
     | none => some .skip
     | some inp => if inp.drained ∨ s.tactic.get p = 0 then some .skip else some .stopSeen)
  | .limited _ => some .stopSeen
  | .drain _ => some .stopSeen
  | .done _ => none
  | .fault => none

/-- distance to termination under `stopAct` -/
def mu (s : St) : Nat :=
  match s.pc with
  | .done _ => 0
  | .fault => 0
  | .drain _ => 1
  | .top => 2
  | .limited _ => 3
  | .prio ph rest => if ph = 1 then 5 + s.prios.length + rest.length else 4 + rest.length
  | .waitFb => 6 + 2 * s.prios.length
  | .calc => 7 + 2 * s.prios.length

/-- **C16 (no state ignores Stop; bounded exit).** In a stopped v1 discipline that has not
    terminated, `stopAct` is enabled, strictly decreases `mu` and changes nothing but allotment,
    bookkeeping and control point: the stop flag, the configuration, the priorities, the inputs
    and the deliveries stay as they are. -/
theorem c16_stop_step (div : DivFn) (s : St) (hv : s.cfg.v1 = true) (hst : s.stopped = true) (hnf : s.pc ≠ .fault)
    (hch : ∀ p inp, alGet s.inputs p = some inp → (alGet s.chans inp.chan).isSome) (hnd : ∀ e, s.pc ≠ .done e) :
    ∃ a s', stopAct s = some a ∧ step div s a = some s' ∧ C07.CtrlFrame s s' ∧ mu s' < mu s ∧ s'.pc ≠ .fault := by
  cases hpc : s.pc with
  | done e => exact absurd hpc (hnd e)
  | fault => exact absurd hpc hnf
  | top =>
    exact ⟨_, _, by simp [stopAct, hpc], (Step.own hpc (.goto (.topStop hv hst))).step_eq, .goto s _, by simp [mu, hpc], nofun⟩
  | drain e =>
    exact ⟨_, _, by simp [stopAct, hpc], (Step.own hpc (.goto (.drainStop hv hst))).step_eq, .goto s _, by simp [mu, hpc], nofun⟩
  | limited k =>
    exact ⟨_, _, by simp [stopAct, hpc], (Step.own hpc (.limitedSeen hv hst)).step_eq, ⟨_, _, _, _, _, rfl⟩,
      by simp [mu, hpc, nextRound_v1 hv], by rw [nextRound_v1 hv]; nofun⟩
  | waitFb =>
    exact ⟨_, _, by simp [stopAct, hpc], (Step.own hpc (.waitStop hv hst)).step_eq, ⟨_, _, _, _, _, rfl⟩,
      by simp [mu, hpc]; omega, nofun⟩
  | «calc» =>
    refine ⟨_, _, by simp [stopAct, hpc], (Step.own hpc .calc).step_eq, ⟨_, _, _, _, _, stepCalc_eq div s⟩, ?_⟩
    have hp : (stepCalc div s).prios = s.prios := by rw [stepCalc_eq]
    rcases stepCalc_pc div s with e | e | ⟨_, e⟩ | ⟨hv', _⟩
    · exact ⟨by simp [mu, hpc, e, hp]; omega, by rw [e]; nofun⟩
    · exact ⟨by simp [mu, hpc, e, hp], by rw [e]; nofun⟩
    · exact ⟨by simp [mu, hpc, e]; omega, by rw [e]; nofun⟩
    · rw [hv] at hv'; cases hv'
  | prio ph rest =>
    cases rest with
    | nil =>
      by_cases h1 : ph = 1
      · subst h1
        refine ⟨_, _, by simp [stopAct, hpc], (Step.own hpc .recalc).step_eq, ⟨_, _, _, _, _, stepRecalc_eq div s⟩, ?_⟩
        rcases stepRecalc_pc div s with e | e | ⟨_, e⟩
        · exact ⟨by simp [mu, hpc, e], by rw [e]; nofun⟩
        · exact ⟨by simp [mu, hpc, e]; omega, by rw [e]; nofun⟩
        · exact ⟨by simp [mu, hpc, e]; omega, by rw [e]; nofun⟩
      · by_cases hc : s.processed = 0 ∧ (¬ s.cfg.v1 ∨ s.graceful) ∧ allDrained s.inputs
        · exact ⟨_, _, by simp [stopAct, hpc, h1], (Step.own hpc (.goto (.endDrain h1 hc.1 hc.2.1 hc.2.2))).step_eq,
            .goto s _, by simp [mu, hpc, h1], nofun⟩
        · exact ⟨_, _, by simp [stopAct, hpc, h1], (Step.own hpc (.goto (.endLimited h1 hc))).step_eq,
            .goto s _, by simp [mu, hpc, h1], nofun⟩
    | cons p rest' =>
      have hmu : mu { s with pc := .prio ph rest' } < mu s := by
        simp only [mu, hpc]; split <;> simp <;> omega
      -- the head priority is passed over, or its poll sees the stop signal
      rcases skips_or_polls (p := p) (hch p) with hsk | ⟨inp, ch, hP⟩
      · refine ⟨.skip, _, ?_, (Step.own hpc (.goto (.skip hsk))).step_eq, .goto s _, hmu, nofun⟩
        simp only [stopAct, hpc]
        split
        · rfl
        · rename_i inp hin; rw [if_pos (hsk inp hin)]
      · refine ⟨.stopSeen, _, ?_, (Step.own hpc (.goto (.pollStop hP hv hst))).step_eq, .goto s _, hmu, nofun⟩
        simp [stopAct, hpc, hP.input, hP.undrained, hP.share]

def stopRun (div : DivFn) : Nat → St → St
  | 0, s => s
  | n + 1, s =>
    match stopAct s with
    | none => s
    | some a =>
      match step div s a with
      | none => s
      | some s' => stopRun div n s'

theorem stopRun_iterates (div : DivFn) : Iterates (fun s => (stopAct s).bind (step div s)) (stopRun div) := by
  refine ⟨fun _ => rfl, fun n s => ?_⟩
  rw [stopRun]
  cases stopAct s with
  | none => rfl
  | some a => simp only [Option.bind_some]; cases step div s a <;> rfl

/-- the exit bound, from what it needs: no fault, and a channel behind every registered input -/
theorem stop_exits (div : DivFn) (n : Nat) (s : St) (hv : s.cfg.v1 = true) (hst : s.stopped = true) (hnf : s.pc ≠ .fault)
    (hch : ∀ p inp, alGet s.inputs p = some inp → (alGet s.chans inp.chan).isSome) (hn : mu s ≤ n) :
    (∃ e, (stopRun div n s).pc = .done e) ∧ (stopRun div n s).delivered = s.delivered := by
  have h := (stopRun_iterates div).reaches (μ := mu) (D := fun u => ∃ e, u.pc = .done e)
    (P := fun u => u.cfg.v1 = true ∧ u.stopped = true ∧ u.pc ≠ .fault ∧ u.inputs = s.inputs ∧ u.chans = s.chans ∧
      u.delivered = s.delivered)
    (fun u ⟨h1, h2, h3, h4, h5, h6⟩ hD => by
      obtain ⟨a, u', ha, hs, ⟨_, _, _, _, _, e⟩, hmu, hnf'⟩ :=
        c16_stop_step div u h1 h2 h3 (by rw [h4, h5]; exact hch) (fun e he => hD ⟨e, he⟩)
      refine ⟨u', by simp [ha, hs], ?_, hmu⟩
      subst e
      exact ⟨h1, h2, hnf', h4, h5, h6⟩)
    (fun u ⟨e, he⟩ => by simp [stopAct, he]) n s ⟨hv, hst, hnf, rfl, rfl, rfl⟩ hn
  exact ⟨h.2, h.1.2.2.2.2.2⟩

/-- **C16 (exit bound).** From any reachable stopped v1 state, at most `mu s ≤ 7 + 2·#priorities`
    stop-preferring steps lead to `done`, and nothing is delivered on the way. -/
theorem c16_exit_bound (div : DivFn) (n : Nat) (s : St) (hv : s.cfg.v1 = true) (hst : s.stopped = true)
    (hinv : Inv s) (hw : C15.WF s) (ht : C07.TInv s) (hn : mu s ≤ n) :
    (∃ e, (stopRun div n s).pc = .done e) ∧ (stopRun div n s).delivered = s.delivered :=
  stop_exits div n s hv hst hinv.nofault ht.chansOK hn

/-- **C16 (quiet after termination).** Once `done`, no discipline action is enabled: nothing
    more is ever written to the output. -/
theorem c16_quiet (div : DivFn) (s s' : St) (a : Act) (e : Option Err) (hpc : s.pc = .done e)
    (hs : step div s a = some s') : s'.delivered = s.delivered ∧ s'.pc = .done e :=
  ⟨((step_sound hs).done_quiet hpc).2, ((step_sound hs).done_quiet hpc).1⟩

/-- the unrepaired `waitCalcTactic` (defect D3) as a machine fragment: with every handler
    busy the cycle calc → waitFb → (stop seen, nothing consumed) → calc never leaves -/
def afterWaitFbUnfixed (s : St) : St := { s with pc := .calc }

theorem c16_unfixed_cycle (div : DivFn) (s : St) (hbusy : s.actual.total = s.cfg.H) :
    (stepCalc div s).pc = .waitFb ∧ (afterWaitFbUnfixed (stepCalc div s)).pc = .calc ∧
    (afterWaitFbUnfixed (stepCalc div s)).actual = s.actual := by
  simp [stepCalc_of_le (Nat.le_of_eq hbusy), calcTacticWith, hbusy, afterWaitFbUnfixed]

/-- **C16 (join: Stop is never ignored).** In a stopped v1 join that has not terminated the
    stop branch is enabled — also while waiting for the release signal — and leads to `done`. -/
theorem c16_join_stop (s : JSt) (t : Nat) (hv : s.cfg.v1 = true) (hst : s.stopped = true) (hnd : s.pc ≠ .done) :
    ∃ s', jstep s (.stopSeen t) = some s' ∧ s'.pc = .done ∧ s'.out = s.out := by
  cases hpc : s.pc with
  | run => exact ⟨_, jstep_stopSeen_run hpc hv hst, rfl, rfl⟩
  | await n => exact ⟨_, jstep_stopSeen_await hpc hv hst, rfl, rfl⟩
  | done => exact absurd hpc hnd

/-! Non-vacuity: all handlers busy, nothing released, Stop: the machine still terminates. -/
example :
    let div : DivFn := fun _ => fair
    let s0 := initV1 div [(1, true)] 1
    ((run div s0 [.arrive 1 7, .arrive 1 8, .top .none, .calc, .pollItem, .skip, .recalc, .skip, .endRound,
        .limitedStop, .top .none, .calc, .stop]).map
      (fun s => ((stopRun div 20 s).pc, (stopRun div 20 s).delivered, s.inflight.total))) =
    some (.done none, [(1, 1, 7)], 1) := by decide +kernel

end Cqos.C16
