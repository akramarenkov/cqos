import Cqos.Lemmas.PStep
/-
  C15 for v1 `priority.Simple`: the termination protocol of Cqos/SimpleV1.lean extended by what
  happens to an error of the inner discipline (the divider broke its contract).  The inner
  discipline may fail at any moment while it runs (`innerFail`); `main` reports the error when its
  select takes the `priority.Err()` case and — since the repair of defect D5 — after
  `gracefulStop()` has returned.  `swallow := true` is the code before the repair: `main` came
  back from `gracefulStop()` without looking at the inner error channel, so the error was lost and
  the termination looked normal.
-/
namespace Cqos.SimpleV1

structure ESt where
  base : PSt
  innerErr : Bool       -- the inner discipline terminated with an error
  reported : Bool       -- the error was written to `Simple.err`
  swallow : Bool        -- before the repair of D5
  deriving DecidableEq, Repr

inductive EAct
  | base (a : PAct)
  | innerFail           -- the inner discipline detects a divider fault and terminates with the error
  deriving DecidableEq, Repr

/-- does this step of `main` write the inner error to `Simple.err`? -/
def reports (s : ESt) : PAct → Bool
  | .selErr => s.innerErr
  | .gDone => !s.swallow && s.innerErr
  | .helperJoined => !s.swallow && s.innerErr
  | _ => false

def estep (s : ESt) : EAct → Option ESt
  | .base a => (pstep s.base a).map (fun b => { s with base := b, reported := s.reported || reports s a })
  | .innerFail =>
    if s.base.innerDone then none
    else some { s with base := { s.base with innerDone := true }, innerErr := true }

def erun (s : ESt) : List EAct → Option ESt
  | [] => some s
  | a :: as => match estep s a with
    | some s' => erun s' as
    | none => none

def einit (swallow : Bool) (handlers : Nat) : ESt :=
  { base := init false handlers, innerErr := false, reported := false, swallow := swallow }

structure EInv (s : ESt) : Prop where
  fixed : s.base.unfixed = false
  noSwallow : s.swallow = false
  errDone : s.innerErr = true → s.base.innerDone = true
  helperDone : s.base.helper = .finished → s.base.innerDone = true
  past : s.base.stopReq = false → s.base.ctxDone = false →
    s.base.pc = .select ∨ s.base.pc = .inGraceful ∨ s.base.innerDone = true
  pending : s.innerErr = true → s.reported = false → s.base.stopReq = false → s.base.ctxDone = false →
    s.base.pc = .select ∨ s.base.pc = .inGraceful

theorem einv_init (h : Nat) : EInv (einit false h) :=
  ⟨rfl, rfl, nofun, nofun, fun _ _ => Or.inl rfl, nofun⟩

theorem einv_step (s s' : ESt) (a : EAct) (h : EInv s) (hs : estep s a = some s') : EInv s' := by
  obtain ⟨fixed, noSwallow, errDone, helperDone, past, pending⟩ := h
  cases a with
  | innerFail =>
    simp only [estep] at hs
    split at hs
    · cases hs
    · rename_i hnd
      cases hs
      refine ⟨fixed, noSwallow, fun _ => rfl, fun _ => rfl, fun _ _ => Or.inr (Or.inr rfl), ?_⟩
      intro _ hr hst hct
      rcases past hst hct with e | e | e
      · exact Or.inl e
      · exact Or.inr e
      · exact absurd e hnd
  | base a =>
    simp only [estep, Option.map_eq_some_iff] at hs
    obtain ⟨b, hp, rfl⟩ := hs
    -- the three ways in which `past` and `pending` survive a step of `main`: the step needs a
    -- rough stop; it reports; `main` was already past its select and `gracefulStop`
    have rough : s.base.stopReq = true ∨ s.base.ctxDone = true →
        s.base.stopReq = false → s.base.ctxDone = false → False := by
      intro h a b
      rcases h with e | e
      · rw [a] at e; cases e
      · rw [b] at e; cases e
    have unrep : ∀ {r : Bool}, (s.reported || r) = false → s.reported = false :=
      fun h => (Bool.or_eq_false_iff.1 h).1
    have told : s.innerErr = true → (s.reported || s.innerErr) = false → False := by
      intro a b
      rw [a] at b
      simp at b
    have later : ∀ {pc}, s.base.pc = pc → pc ≠ .select → pc ≠ .inGraceful →
        (s.base.stopReq = false → s.base.ctxDone = false → s.base.innerDone = true) ∧
        (s.innerErr = true → s.reported = false → s.base.stopReq = false → s.base.ctxDone = false → False) := by
      intro pc e n1 n2
      have n : s.base.pc ≠ .select ∧ s.base.pc ≠ .inGraceful := e ▸ ⟨n1, n2⟩
      exact ⟨fun a b => ((past a b).resolve_left n.1).resolve_left n.2,
        fun he hr a b => (pending he hr a b).elim n.1 n.2⟩
    cases PStep.of_pstep hp with
    | stop => exact ⟨fixed, noSwallow, errDone, helperDone, nofun, fun _ _ => nofun⟩
    | cancel => exact ⟨fixed, noSwallow, errDone, helperDone, fun _ => nofun, fun _ _ _ => nofun⟩
    | graceful | drain | handlerExit =>
      exact ⟨fixed, noSwallow, errDone, helperDone, past, fun he hr => pending he (unrep hr)⟩
    | selStop hc | gStop hc =>
      exact ⟨fixed, noSwallow, errDone, helperDone, fun a b => (rough hc.2 a b).elim,
        fun _ _ a b => (rough hc.2 a b).elim⟩
    | selErr hc =>
      exact ⟨fixed, noSwallow, errDone, helperDone, fun _ _ => .inr (.inr hc.2), fun he hr => (told he hr).elim⟩
    | selGracefulSync _ hu => rw [fixed] at hu; cases hu
    | selGraceful => exact ⟨fixed, noSwallow, errDone, nofun, fun _ _ => .inr (.inl rfl), fun _ _ _ _ => .inr rfl⟩
    | gDone hc | helperJoined hc =>
      have rep : (!s.swallow && s.innerErr) = s.innerErr := by rw [noSwallow]; rfl
      exact ⟨fixed, noSwallow, errDone, helperDone, fun _ _ => .inr (.inr (helperDone hc.2)),
        fun he hr => (told he (rep ▸ hr)).elim⟩
    | stoppedInner hd hpc | stoppedDefer hd hpc | stoppedSync hd hpc =>
      exact ⟨fixed, noSwallow, errDone, helperDone, fun _ _ => .inr (.inr hd),
        fun he hr a b => ((later hpc nofun nofun).2 he (unrep hr) a b).elim⟩
    | cancelHandlers hpc =>
      obtain ⟨done, nopending⟩ := later hpc nofun nofun
      exact ⟨fixed, noSwallow, errDone, helperDone, fun a b => .inr (.inr (done a b)),
        fun he hr a b => (nopending he (unrep hr) a b).elim⟩
    | handlersGone hc =>
      obtain ⟨done, nopending⟩ := later hc.1 nofun nofun
      exact ⟨fixed, noSwallow, errDone, helperDone, fun a b => .inr (.inr (done a b)),
        fun he hr a b => (nopending he (unrep hr) a b).elim⟩
    | innerFinish =>
      exact ⟨fixed, noSwallow, fun _ => rfl, fun _ => rfl, fun _ _ => .inr (.inr rfl),
        fun he hr => pending he (unrep hr)⟩
    | helperReturn hc => exact ⟨fixed, noSwallow, errDone, fun _ => hc.2, past, fun he hr => pending he (unrep hr)⟩

theorem einv_run (acts : List EAct) (s s' : ESt) (h : EInv s) (hr : erun s acts = some s') : EInv s' := by
  induction acts generalizing s with
  | nil => cases hr; exact h
  | cons a as ih =>
    simp only [erun] at hr
    split at hr
    · rename_i s1 hs1; exact ih s1 (einv_step s s1 a h hs1) hr
    · cases hr

/-- **C15 for v1 `Simple` (an inner error is reported, also while a graceful stop is pending).**
    For every run of the termination protocol, every number of handlers: when `main` has completed
    (so `Err()` is closed) and the inner discipline had terminated with an error, the error was
    written to `Simple.Err()` — unless the user asked for a rough termination (`Stop()` / context
    cancellation), where no report is promised. -/
theorem c15_simple_error_reported (handlers : Nat) (acts : List EAct) (s : ESt)
    (hr : erun (einit false handlers) acts = some s) (hc : s.base.pc = .completed) (he : s.innerErr = true)
    (hst : s.base.stopReq = false) (hct : s.base.ctxDone = false) : s.reported = true := by
  have h := einv_run acts _ s (einv_init handlers) hr
  cases hrep : s.reported with
  | true => rfl
  | false =>
    rcases h.pending he hrep hst hct with e | e <;> (rw [hc] at e; cases e)

/-- before the repair of D5 the error is lost: the inner discipline fails while `GracefulStop()` is
    pending, `main` completes, `Err()` is closed and nothing was reported -/
theorem c15_simple_unfixed_error_lost :
    (erun (einit true 1) [.base .graceful, .base .selGraceful, .innerFail, .base .helperReturn, .base .gDone,
        .base .innerStopped, .base .cancelHandlers, .base .handlerExit, .base .handlersGone]).map
      (fun s => (s.base.pc, s.innerErr, s.reported, s.base.stopReq, s.base.ctxDone)) =
      some (.completed, true, false, false, false) := by decide +kernel

/-- the same run after the repair reports the error -/
example :
    (erun (einit false 1) [.base .graceful, .base .selGraceful, .innerFail, .base .helperReturn, .base .gDone,
        .base .innerStopped, .base .cancelHandlers, .base .handlerExit, .base .handlersGone]).map
      (fun s => (s.base.pc, s.innerErr, s.reported)) = some (.completed, true, true) := by decide +kernel

end Cqos.SimpleV1
