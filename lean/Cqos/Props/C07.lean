import Cqos.Props.C15
import Cqos.Lemmas.V2
/-
  Property C07 — the discipline terminates exactly when its inputs are drained and all
  items released.

  * safety (every action list, every divider): `done` is reached only with every
    registered input drained — its channel closed and empty — and, unless it was stopped
    (v1 Stop / cancel), with nothing in flight and no release outstanding;
  * with a divider that obeys the sum rule the error channel yields no error;
  * the closing order (output before err, nothing before `loop` returns) is read off the
    regenerated defer table (facts, C19).
-/
namespace Cqos.C07

/-- a drained input's channel is closed and empty -/
def DrainedOK (s : St) : Prop :=
  ∀ p inp, alGet s.inputs p = some inp → inp.drained = true →
    ∃ ch, alGet s.chans inp.chan = some ch ∧ ch.closed = true ∧ ch.queue = []

/-- the discipline left its loop normally only with all inputs drained -/
def ExitOK (s : St) : Prop :=
  (s.pc = .drain none ∨ s.pc = .done none) → allDrained s.inputs = true ∨ (s.cfg.v1 = true ∧ s.stopped = true)

/-- a terminated discipline holds nothing -/
def DoneOK (s : St) : Prop :=
  ∀ e, s.pc = .done e → s.actual.total = 0 ∨ (s.cfg.v1 = true ∧ s.stopped = true)

structure TInv (s : St) : Prop where
  drained : DrainedOK s
  exit : ExitOK s
  done : DoneOK s
  chansOK : ∀ p inp, alGet s.inputs p = some inp → (alGet s.chans inp.chan).isSome

/-- `s'` differs from `s` at most in the allotment, the divider bookkeeping, the round counter and the
    control point -/
def CtrlFrame (s s' : St) : Prop :=
  ∃ t c l n pc, s' = { s with tactic := t, calls := c, log := l, processed := n, pc := pc }

theorem CtrlFrame.goto (s : St) (pc : Pc) : CtrlFrame s { s with pc := pc } := ⟨_, _, _, _, _, rfl⟩

theorem tinv_same {s u : St} (h : TInv s) (hi : u.inputs = s.inputs) (hc : u.chans = s.chans)
    (hexit : ExitOK u) (hdone : DoneOK u) : TInv u :=
  ⟨by unfold DrainedOK; rw [hi, hc]; exact h.drained, hexit, hdone, by rw [hi, hc]; exact h.chansOK⟩

/-- the control states `ExitOK` and `DoneOK` speak of -/
def exits : Pc → Bool
  | .drain none | .done _ => true
  | _ => false

theorem noexit {u : St} (h : exits u.pc = false) : ExitOK u ∧ DoneOK u := by
  refine ⟨fun hp => ?_, fun e hp => ?_⟩
  · rcases hp with hp | hp <;> rw [hp] at h <;> cases h
  · rw [hp] at h; cases h

theorem tinv_noexit {s u : St} (h : TInv s) (hi : u.inputs = s.inputs) (hc : u.chans = s.chans)
    (hx : exits u.pc = false) : TInv u :=
  tinv_same h hi hc (noexit hx).1 (noexit hx).2

theorem tinv_alSet_chan {s u : St} (h : TInv s) (hi : u.inputs = s.inputs) {c : Nat} {ch ch' : Chan}
    (hch : alGet s.chans c = some ch) (hc : u.chans = alSet s.chans c ch')
    (hok : ch.closed = true → ch.queue = [] → ch'.closed = true ∧ ch'.queue = []) (hx : ExitOK u ∧ DoneOK u) : TInv u := by
  refine ⟨fun p inp hp hd => ?_, hx.1, hx.2, fun p inp hp => ?_⟩ <;> rw [hi] at hp <;> rw [hc, alGet_alSet]
  · obtain ⟨x, hx, hcl, hq⟩ := h.drained p inp hp hd
    split
    · rename_i he; subst he; cases hch.symm.trans hx; exact ⟨ch', rfl, hok hcl hq⟩
    · exact ⟨x, hx, hcl, hq⟩
  · split
    · rfl
    · exact h.chansOK p inp hp

theorem tinv_alSet_input {s u : St} (h : TInv s) {p : Nat} {inp' : Input} (hi : u.inputs = alSet s.inputs p inp')
    (hch : ∀ d ch, alGet s.chans d = some ch → alGet u.chans d = some ch)
    (hp : ∃ ch, alGet u.chans inp'.chan = some ch ∧ (inp'.drained = true → ch.closed = true ∧ ch.queue = []))
    (hx : exits u.pc = false) : TInv u := by
  have key : ∀ q inq, alGet u.inputs q = some inq →
      ∃ ch, alGet u.chans inq.chan = some ch ∧ (inq.drained = true → ch.closed = true ∧ ch.queue = []) := by
    intro q inq hq
    rw [hi, alGet_alSet] at hq
    split at hq
    · cases hq; exact hp
    · obtain ⟨ch, hc⟩ := Option.isSome_iff_exists.1 (h.chansOK q inq hq)
      refine ⟨ch, hch _ _ hc, fun hd => ?_⟩
      obtain ⟨ch', hc', h1, h2⟩ := h.drained q inq hq hd
      cases hc.symm.trans hc'; exact ⟨h1, h2⟩
  refine ⟨fun q inq hq hd => ?_, (noexit hx).1, (noexit hx).2, fun q inq hq => ?_⟩
  · obtain ⟨ch, hc, hd'⟩ := key q inq hq; exact ⟨ch, hc, (hd' hd).1, (hd' hd).2⟩
  · obtain ⟨ch, hc, _⟩ := key q inq hq; rw [hc]; rfl

theorem tinv_step {div : DivFn} {s s' : St} {a : Act} (hw : C15.WF s) (h : TInv s)
    (hs : Step div s a s') : TInv s' := by
  cases hs with
  | arrive hch hcl => exact tinv_alSet_chan h rfl hch rfl (fun hc _ => by rw [hcl] at hc; cases hc) ⟨h.exit, h.done⟩
  | close hch => exact tinv_alSet_chan h rfl hch rfl (fun _ hq => ⟨rfl, hq⟩) ⟨h.exit, h.done⟩
  | release _ | graceful _ => exact tinv_same h rfl rfl h.exit h.done
  | stop hv => exact tinv_same h rfl rfl (fun _ => .inr ⟨hv, rfl⟩) (fun _ _ => .inr ⟨hv, rfl⟩)
  | own hpc ho =>
    cases ho with
    | goto hg =>
      refine tinv_same h rfl rfl (fun hp => ?_) (fun e he => ?_)
      · cases hg with
        | topStop hv hst | drainStop hv hst => exact .inr ⟨hv, hst⟩
        | endDrain _ _ _ hd => exact .inl hd
        | exit _ => exact h.exit (.inl (hpc.trans (by rcases hp with hp | hp <;> cases hp; rfl)))
        | _ => rcases hp with hp | hp <;> cases hp
      · cases hg with
        | exit hz => exact .inl ((Dist.allZero_iff_total _).1 hz)
        | drainStop hv hst => exact .inr ⟨hv, hst⟩
        | _ => cases he
    | consume _ _ hk =>
      cases hk with
      | top _ | limited _ => exact tinv_noexit h rfl rfl rfl
      | waitFb =>
        rw [afterWaitFb_eq]
        exact tinv_noexit h rfl rfl (by rcases afterWaitFb_pc _ with e | e <;> exact congrArg exits e)
      | drain _ =>
        exact tinv_same h rfl rfl h.exit fun e he => nomatch hpc.symm.trans he
    | @topAdd p c b _ =>
      refine tinv_alSet_input h (inp' := ⟨c, false⟩) rfl (fun d ch hd => ?_) ?_ rfl
      · show alGet (if (alGet s.chans c).isSome then s.chans else alSet s.chans c ⟨[], false, b⟩) d = _
        split
        · exact hd
        · rename_i hn
          rw [alGet_alSet, if_neg fun e => hn (by rw [e, hd]; rfl)]; exact hd
      · show ∃ ch, alGet (if (alGet s.chans c).isSome then s.chans else alSet s.chans c ⟨[], false, b⟩) c = some ch ∧ _
        split
        · rename_i hs
          obtain ⟨ch, hc⟩ := Option.isSome_iff_exists.1 hs
          exact ⟨ch, hc, nofun⟩
        · exact ⟨_, by rw [alGet_alSet, if_pos rfl], nofun⟩
    | @topRemove p _ =>
      exact ⟨fun q inq hq => h.drained q inq (alGet_of_alErase hw.inputsNd hq).2, (noexit rfl).1, (noexit rfl).2,
        fun q inq hq => h.chansOK q inq (alGet_of_alErase hw.inputsNd hq).2⟩
    | wrap _ _ _ | topNone _ | waitStop _ _ => exact tinv_noexit h rfl rfl rfl
    | «calc» =>
      rw [stepCalc_eq]
      exact tinv_noexit h rfl rfl (by rcases stepCalc_pc div s with e | e | ⟨_, e⟩ | ⟨_, e⟩ <;> exact congrArg exits e)
    | recalc =>
      rw [stepRecalc_eq]
      exact tinv_noexit h rfl rfl (by rcases stepRecalc_pc div s with e | e | ⟨_, e⟩ <;> exact congrArg exits e)
    | limitedStop | limitedSeen _ _ =>
      exact tinv_noexit h rfl rfl (by rcases nextRound_pc s with e | e <;> exact congrArg exits e)
    | pollItem hP hq | pollDrop hP hq _ _ =>
      exact tinv_alSet_chan h rfl hP.chan rfl (fun _ hq' => by rw [hq] at hq'; cases hq') (noexit (congrArg exits hpc))
    | @pollClosed _ p _ inp ch hP hq hcl =>
      exact tinv_alSet_input h (inp' := { inp with drained := true }) rfl (fun _ _ e => e)
        ⟨ch, hP.chan, fun _ => ⟨hcl, hq⟩⟩ rfl

theorem tinv_run {div : DivFn} {acts : List Act} {s s' : St} (hinv : Inv s) (hw : C15.WF s) (h : TInv s)
    (hr : run div s acts = some s') : TInv s' :=
  (run_induction (I := fun t => Inv t ∧ C15.WF t ∧ TInv t)
    (fun hi ht => ⟨C01.step_inv hi.1 ht, C15.wf_step hi.1 hi.2.1 ht, tinv_step hi.2.1 hi.2.2 ht⟩) ⟨hinv, hw, h⟩ hr).2.2

theorem tinv_mkInputs {keys : List (Nat × Bool)} {s : St} (hi : s.inputs = (mkInputs keys).1)
    (hc : s.chans = (mkInputs keys).2) (hx : exits s.pc = false) : TInv s := by
  refine ⟨fun p inp hp hd => ?_, (noexit hx).1, (noexit hx).2, fun p inp hp => ?_⟩ <;> rw [hi] at hp <;>
    obtain ⟨rfl, h2⟩ := alGet_mkInputs keys p inp hp
  · cases hd
  · rw [hc]; exact h2

theorem reach_initV2 {div : DivFn} {keys : List (Nat × Bool)} {H : Nat} (hnd : (keys.map (·.1)).Nodup) {s0 s : St}
    {acts : List Act} (h0 : initV2 div keys H = .ok s0) (hr : run div s0 acts = some s) :
    TInv s ∧ Inv s ∧ C15.WF s ∧ s.cfg = s0.cfg :=
  have hinv := C01.fresh_inv (C01.initV2_fresh div keys H s0 h0).1
  have hw := C15.wf_initV2 div keys H s0 hnd h0
  have ht : TInv s0 := by obtain ⟨_, _, rfl⟩ := initV2_ok h0; exact tinv_mkInputs rfl rfl rfl
  ⟨tinv_run hinv hw ht hr, C01.run_inv hinv hr, C15.wf_run hinv hw hr, run_cfg hr⟩

theorem reach_initV1 {div : DivFn} {keys : List (Nat × Bool)} {H : Nat} (hnd : (keys.map (·.1)).Nodup) {s : St}
    {acts : List Act} (hr : run div (initV1 div keys H) acts = some s) :
    TInv s ∧ Inv s ∧ C15.WF s ∧ s.cfg = (initV1 div keys H).cfg :=
  have hinv := C01.fresh_inv (C01.initV1_fresh div keys H).1
  have hw := C15.wf_initV1 div keys H hnd
  ⟨tinv_run hinv hw (tinv_mkInputs rfl rfl rfl) hr, C01.run_inv hinv hr, C15.wf_run hinv hw hr, run_cfg hr⟩

/-- what `done` means in either version where the invariants hold and no Stop was seen -/
theorem done_only_then {s : St} (ht : TInv s) (hinv : Inv s) (stopped : ¬ (s.cfg.v1 = true ∧ s.stopped = true))
    {e : Option Err} (hdone : s.pc = .done e) :
    s.inflight.total = 0 ∧ s.pending = [] ∧
    (e = none → ∀ p inp, alGet s.inputs p = some inp →
        ∃ ch, alGet s.chans inp.chan = some ch ∧ ch.closed = true ∧ ch.queue = []) := by
  have hzero : s.actual.total = 0 := (ht.done e hdone).resolve_right stopped
  have htot := hinv.core.tot
  rw [hzero] at htot
  refine ⟨by omega, List.eq_nil_of_length_eq_zero (by omega), fun he p inp hp => ?_⟩
  subst he
  have hall : allDrained s.inputs = true := (ht.exit (.inr hdone)).resolve_right stopped
  exact ht.drained p inp hp (alGet_mem_all s.inputs (fun kv => kv.2.drained) hall p inp hp)

/-- **C07 (v2: output and error channels are closed only then).** After ANY run of a v2
    discipline, if it has terminated (`done`) then every registered input is drained — its
    channel closed and empty — nothing is in flight and no release is outstanding. -/
theorem c07_v2_only_then (div : DivFn) (keys : List (Nat × Bool)) (H : Nat) (hnd : (keys.map (·.1)).Nodup)
    (s0 s : St) (acts : List Act) (h0 : initV2 div keys H = .ok s0) (hr : run div s0 acts = some s)
    (e : Option Err) (hdone : s.pc = .done e) :
    s.inflight.total = 0 ∧ s.pending = [] ∧
    (e = none → ∀ p inp, alGet s.inputs p = some inp →
        ∃ ch, alGet s.chans inp.chan = some ch ∧ ch.closed = true ∧ ch.queue = []) := by
  obtain ⟨ht, hinv, _, hc⟩ := reach_initV2 hnd h0 hr
  exact done_only_then ht hinv (fun h => by rw [hc, initV2_v1 h0] at h; cases h.1) hdone

/-- **C07 (v1: GracefulStop returns only then).** If a v1 discipline has terminated without
    having been stopped (Stop / cancel), every registered input is drained and nothing is in
    flight. -/
theorem c07_v1_graceful_only_then (div : DivFn) (keys : List (Nat × Bool)) (H : Nat) (hnd : (keys.map (·.1)).Nodup)
    (s : St) (acts : List Act) (hr : run div (initV1 div keys H) acts = some s)
    (hdone : s.pc = .done none) (hns : s.stopped = false) :
    s.inflight.total = 0 ∧ s.pending = [] ∧
    (∀ p inp, alGet s.inputs p = some inp →
        ∃ ch, alGet s.chans inp.chan = some ch ∧ ch.closed = true ∧ ch.queue = []) := by
  obtain ⟨ht, hinv, _, _⟩ := reach_initV1 hnd hr
  obtain ⟨h1, h2, h3⟩ := done_only_then ht hinv (fun h => by rw [hns] at h; cases h.2) hdone
  exact ⟨h1, h2, h3 rfl⟩

/-- a divider that obeys the sum rule on every call -/
def GoodDiv (div : DivFn) : Prop := ∀ i ps d m, (div i ps d m).total = m.total + d

theorem GoodDiv.sumRule {div : DivFn} (hg : GoodDiv div) (i : Nat) (ps : List Nat) (d : Nat) (m : Dist)
    (hm : m.total = 0) : (div i ps d m).total = d ∨ (div i ps d m).total = 0 := by
  rw [hg, hm]; simp

/-- **C07 (normal mode: no error).** With a divider obeying the sum rule, `calcTactic` and
    `recalcTactic` never report an error.  That the machine then never enters `drain (some e)`,
    so that `Err()` yields nil, is `C06.noerr_step` (under the weaker `C06.SumRule`). -/
theorem c07_no_error_calc (div : DivFn) (hg : GoodDiv div) (s : St) (e : Err) :
    (calcTacticWith (div s.calls) s.prios s.actual s.strategic s.tactic (s.cfg.H - s.actual.total)).verdict ≠ .error e :=
  calcTacticWith_no_error (hg.sumRule s.calls)

theorem c07_no_error_recalc (div : DivFn) (hg : GoodDiv div) (s : St) (e : Err) :
    (recalcTacticWith div s.calls s.cfg.H s.prios s.actual s.tactic).verdict ≠ .error e :=
  recalcTacticWith_no_error hg.sumRule

/-! Non-vacuity: a v2 run to normal termination. -/
example :
    (match initV2 (fun _ => fair) [(1, true)] 1 with
     | .ok s0 =>
       (run (fun _ => fair) s0 [.arrive 1 7, .close 1, .calc, .pollItem, .skip, .recalc, .skip, .endRound, .release 1,
          .consume 1, .limitedStop, .calc, .pollClosed, .recalc, .skip, .endRound, .exit]).map
         (fun s => (s.pc, s.delivered, s.inflight.total))
     | .error _ => none) = some (.done none, [(1, 1, 7)], 0) := by decide +kernel

end Cqos.C07
