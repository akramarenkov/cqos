import Cqos.Props.C04
/-
  Property C12, last clause: "N elements available up-front are delivered within about
  ceil(N/Quantity) Intervals" — the limit discipline does not throttle below the configured
  rate.

  The lower bounds of C04 hold for every action list.  An upper bound needs the runtime to
  cooperate; what is needed is made explicit as `promptRun ε`: every clock reading the
  discipline takes is at most `ε` after the previous one (the elements are available, the
  consumer is ready, the goroutine is scheduled), and `time.Sleep` oversleeps by at most `ε`.
  Then `N` elements are out after `⌈N/Quantity⌉ − 1` pauses of about one Interval each
  (`c12_item_upper`).  A change that makes a pause longer than `Interval − (time already spent
  on the batch)`, or that adds a pause, breaks `u_step` at the `batchEnd` / `wake` cases.
-/
namespace Cqos.C12
open Cqos.C04

/-- the runtime cooperates: readings are at most `ε` apart, Sleep oversleeps at most `ε` -/
def promptOk (ε : Nat) (s : LSt) (a : LAct) : Bool :=
  match s.pc, a with
  | .sleeping u, .wake t => decide (t ≤ u + ε)
  | _, .start t => decide (t ≤ s.now + ε)
  | _, .sent t => decide (t ≤ s.now + ε)
  | _, .batchEnd t => decide (t ≤ s.now + ε)
  | _, _ => true

def promptRun (ε : Nat) : LSt → List LAct → Option LSt
  | s, [] => some s
  | s, a :: as =>
    if promptOk ε s a then (match lstep s a with | some s' => promptRun ε s' as | none => none) else none

/-- where the machine is on the time axis, from above (`W = Interval + 2ε` per completed batch) -/
def upOK (ε : Nat) (s : LSt) : Prop :=
  match s.pc with
  | .idle => s.now ≤ s.t0 + s.sleeps.length * (s.cfg.interval + 2 * ε)
  | .batch k st => st ≤ s.t0 + s.sleeps.length * (s.cfg.interval + 2 * ε) + ε ∧ s.now ≤ st + k * ε
  | .holding k st _ => st ≤ s.t0 + s.sleeps.length * (s.cfg.interval + 2 * ε) + ε ∧ s.now ≤ st + k * ε
  | .sleeping u => u + ε ≤ s.t0 + s.sleeps.length * (s.cfg.interval + 2 * ε)
  | .done => True

structure UInv (ε : Nat) (s : LSt) : Prop where
  loc : upOK ε s
  items : ∀ i (hi : i < s.sent.length),
    (s.sent[i]).2 ≤ s.t0 + (i / s.cfg.quantity) * (s.cfg.interval + 2 * ε) + (s.cfg.quantity + 1) * ε

/-- the arithmetic of a send: `b` bounds the start of the batch up to `ε`, the `k` elements before
    took `ε` each, and `k < Q` -/
theorem upper_sent {t now st k Q ε b : Nat} (hp : t ≤ now + ε) (h1 : st ≤ b + ε) (h2 : now ≤ st + k * ε)
    (hk : k < Q) : t ≤ st + (k + 1) * ε ∧ t ≤ b + (Q + 1) * ε := by
  have := Nat.mul_le_mul_right ε hk
  rw [Nat.succ_mul] at this ⊢
  rw [Nat.succ_mul Q]
  omega

/-- the arithmetic of a pause: the batch took at most `(Q+1)·ε ≤ I`, so the pause ends at `st + I`,
    and batch `L+1` may start `I + 2ε` after the bound for batch `L` -/
theorem upper_pause {t now st Q ε I t0 L : Nat} (hp : t ≤ now + ε) (h1 : st ≤ t0 + L * (I + 2 * ε) + ε)
    (h2 : now ≤ st + Q * ε) (hε : (Q + 1) * ε ≤ I) : max t (st + I) + ε ≤ t0 + (L + 1) * (I + 2 * ε) := by
  have ht : t ≤ st + I := calc
    t ≤ st + Q * ε + ε := Nat.le_trans hp (Nat.add_le_add_right h2 ε)
    _ = st + (Q + 1) * ε := by rw [Nat.succ_mul, Nat.add_assoc]
    _ ≤ st + I := Nat.add_le_add_left hε st
  rw [Nat.max_eq_right ht, Nat.succ_mul]
  omega

theorem u_step (ε : Nat) (s s' : LSt) (a : LAct) (hq : 0 < s.cfg.quantity)
    (hε : (s.cfg.quantity + 1) * ε ≤ s.cfg.interval) (hl : LInv s) (h : UInv ε s)
    (hp : promptOk ε s a = true) (hs : lstep s a = some s') : UInv ε s' := by
  have hloc := h.loc
  unfold promptOk at hp
  cases LStep.of_lstep hs with
  | start t hpc hle =>
    simp only [upOK, hpc, decide_eq_true_eq] at hloc hp
    exact { h with loc := ⟨Nat.le_trans hp (Nat.add_le_add_right hloc ε), Nat.le_add_right ..⟩ }
  | recv k st x hpc hkq =>
    simp only [upOK, hpc] at hloc
    exact { h with loc := hloc }
  | closed k st hpc hkq => exact { h with loc := trivial }
  | sent k st x t hpc hle =>
    simp only [upOK, hpc, decide_eq_true_eq] at hloc hp
    obtain ⟨h1, h2⟩ := upper_sent hp hloc.1 hloc.2 (hl.holding hpc).1
    refine ⟨⟨hloc.1, h1⟩, fun i hi => ?_⟩
    rcases getElem_concat_cases hi with ⟨hlt, e⟩ | ⟨rfl, e⟩ <;> simp only [e]
    · exact h.items i hlt
    · rw [hl.div_eq hpc]; exact h2
  | batchEnd k st t hpc hkq hle =>
    simp only [upOK, hpc, decide_eq_true_eq] at hloc hp
    refine { h with loc := ?_ }
    simp only [upOK, List.length_append, List.length_singleton]
    exact upper_pause hp hloc.1 (hkq ▸ hloc.2) hε
  | wake u t hpc hu hle =>
    simp only [upOK, hpc, decide_eq_true_eq] at hloc hp
    exact { h with loc := Nat.le_trans hp hloc }

/-- hands over the equation, not `LStep`: `u_step` takes the equation -/
theorem promptRun_induction {ε : Nat} {I : LSt → Prop}
    (hstep : ∀ {s a s'}, I s → promptOk ε s a = true → lstep s a = some s' → I s')
    {acts : List LAct} {s s' : LSt} (h : I s) (hr : promptRun ε s acts = some s') : I s' := by
  induction acts generalizing s with
  | nil => cases hr; exact h
  | cons a as ih =>
    simp only [promptRun] at hr
    split at hr
    · split at hr
      · exact ih (hstep h ‹_› ‹_›) hr
      · cases hr
    · cases hr

theorem u_run {cfg : LCfg} {t0 ε : Nat} {acts : List LAct} {s : LSt} (hq : 0 < cfg.quantity)
    (hε : (cfg.quantity + 1) * ε ≤ cfg.interval) (hr : promptRun ε (linit cfg t0) acts = some s) :
    s.cfg = cfg ∧ s.t0 = t0 ∧ LInv s ∧ UInv ε s :=
  promptRun_induction (I := fun s => s.cfg = cfg ∧ s.t0 = t0 ∧ LInv s ∧ UInv ε s)
    (fun {s _ _} ⟨hc, ht, hl, hu⟩ hp hs =>
      have hs' := LStep.of_lstep hs
      ⟨hs'.cfg_eq.trans hc, hs'.t0_eq.trans ht, lstep_inv hl hs', u_step ε s _ _ (hc ▸ hq) (hc ▸ hε) hl hu hp hs⟩)
    ⟨rfl, rfl, linv_init cfg t0, Nat.le_add_right .., fun _ hi => nomatch hi⟩ hr

/-- **C12 (no throttling below the configured rate).** Along every run in which the runtime
    cooperates (`promptRun ε`), for every rate with `(Quantity+1)·ε ≤ Interval`: the i-th element
    (0-based) leaves the output no later than `t0 + ⌊i/Quantity⌋·(Interval+2ε) + (Quantity+1)·ε` —
    `N` elements available up-front are out within about `⌈N/Quantity⌉` Intervals. -/
theorem c12_item_upper (cfg : LCfg) (t0 ε : Nat) (hq : 0 < cfg.quantity) (hε : (cfg.quantity + 1) * ε ≤ cfg.interval)
    (acts : List LAct) (s : LSt) (hr : promptRun ε (linit cfg t0) acts = some s) (i : Nat) (hi : i < s.sent.length) :
    (s.sent[i]).2 ≤ t0 + (i / cfg.quantity) * (cfg.interval + 2 * ε) + (cfg.quantity + 1) * ε := by
  obtain ⟨rfl, rfl, _, hu⟩ := u_run hq hε hr
  exact hu.items i hi

/-- together with C04: the i-th element leaves inside a window of width `⌊i/Q⌋·2ε + (Q+1)·ε` -/
theorem c12_item_window (cfg : LCfg) (t0 ε : Nat) (hq : 0 < cfg.quantity) (hε : (cfg.quantity + 1) * ε ≤ cfg.interval)
    (acts : List LAct) (s : LSt) (hr : promptRun ε (linit cfg t0) acts = some s) (hr' : lrun (linit cfg t0) acts = some s)
    (i : Nat) (hi : i < s.sent.length) :
    t0 + (i / cfg.quantity) * cfg.interval ≤ (s.sent[i]).2 ∧
    (s.sent[i]).2 ≤ t0 + (i / cfg.quantity) * (cfg.interval + 2 * ε) + (cfg.quantity + 1) * ε :=
  ⟨c04_item_time cfg t0 hq acts s hr' i hi, c12_item_upper cfg t0 ε hq hε acts s hr i hi⟩

/-! Non-vacuity: Quantity 2, Interval 100, ε = 5: five elements available up-front. -/
example :
    (promptRun 5 (linit ⟨2, 100⟩ 0)
      [.start 1, .recv 10, .sent 2, .recv 11, .sent 3, .batchEnd 4, .wake 103,
       .start 104, .recv 12, .sent 105, .recv 13, .sent 106, .batchEnd 107, .wake 206,
       .start 207, .recv 14, .sent 208, .closed]).map (fun s => s.sent) =
      some [(10, 2), (11, 3), (12, 105), (13, 106), (14, 208)] := by decide +kernel
/-- a run in which Sleep oversleeps by more than ε is not a prompt run (the hypothesis has content) -/
example :
    promptRun 5 (linit ⟨2, 100⟩ 0)
      [.start 1, .recv 10, .sent 2, .recv 11, .sent 3, .batchEnd 4, .wake 150] = none := by decide +kernel

end Cqos.C12
