import Cqos.Props.C03
/-
  Property C08 — a delivered slice is not modified while the consumer owns it, in the identity
  model of memory of Cqos/Join.lean.  Copy mode: every emitted identity is a fresh clone
  (`CopyOK`).  No-copy mode: between an emission and its release the log has no write and no
  emission (`scanNC` never fails).

  Partial in one respect (stated in DESIGN.md): Go's memory and `append` semantics are
  modelled (identities, `buf.length ≤ JoinSize = cap`), not verified.
-/
namespace Cqos.C08
open Cqos.C03

/-- no-copy scan of the event log: `some held`, or `none` once a write / a second emission
    happens while a slice is held by the consumer -/
def scanNC : Option Bool → JEvent → Option Bool
  | none, _ => none
  | some true, .emit _ _ => none
  | some false, .emit _ _ => some true
  | some true, .write => none
  | some false, .write => some false
  | some _, .released => some false

def heldNC (evs : List JEvent) : Option Bool := evs.foldl scanNC (some false)

/-- is a no-copy slice out according to the control state -/
def expected (s : JSt) : Bool :=
  match s.pc with
  | .await _ => true
  | .done => s.unreleased
  | .run => false

def emitId : JEvent → Option Nat
  | .emit id _ => some id
  | _ => none

/-- copy mode: emitted identities are fresh clones, strictly below `nextId`, pairwise distinct -/
structure CopyOK (s : JSt) : Prop where
  base : 1000000 ≤ s.nextId
  fresh : ∀ e ∈ s.events, ∀ id, emitId e = some id → 1000000 ≤ id ∧ id < s.nextId
  distinct : (s.events.filterMap emitId).Nodup

structure EInv (s : JSt) : Prop where
  copy : s.cfg.noCopy = false → CopyOK s
  nocopy : s.cfg.noCopy = true → heldNC s.events = some (expected s)

theorem heldNC_append (evs more : List JEvent) : heldNC (evs ++ more) = more.foldl scanNC (heldNC evs) := by
  simp [heldNC, List.foldl_append]

theorem copy_write {s u : JSt} (h : CopyOK s) (he : u.events = s.events ++ [JEvent.write]) (hn : u.nextId = s.nextId) :
    CopyOK u := by
  refine ⟨by rw [hn]; exact h.base, ?_, ?_⟩
  · intro e hin id hid
    rw [he] at hin
    simp only [List.mem_append, List.mem_singleton] at hin
    rcases hin with hin | rfl
    · rw [hn]; exact h.fresh e hin id hid
    · simp [emitId] at hid
  · rw [he, List.filterMap_append]; simpa [List.filterMap, emitId] using h.distinct

theorem copy_emit {s u : JSt} (h : CopyOK s) (d : List Nat) (w : List JEvent) (hw : w = [] ∨ w = [JEvent.write])
    (he : u.events = s.events ++ [JEvent.emit s.nextId d] ++ w) (hn : u.nextId = s.nextId + 1) : CopyOK u := by
  have hb := h.base
  refine ⟨by rw [hn]; exact Nat.le_succ_of_le hb, ?_, ?_⟩
  · intro e hin id hid
    rw [he] at hin
    simp only [List.mem_append, List.mem_singleton] at hin
    rcases hin with (hin | rfl) | hin
    · have := h.fresh e hin id hid
      rw [hn]
      exact ⟨this.1, Nat.lt_succ_of_lt this.2⟩
    · simp only [emitId, Option.some.injEq] at hid
      subst hid
      rw [hn]
      exact ⟨hb, Nat.lt_succ_self _⟩
    · rcases hw with rfl | rfl
      · simp at hin
      · simp only [List.mem_singleton] at hin; subst hin; simp [emitId] at hid
  · rw [he]
    have hwf : w.filterMap emitId = [] := by rcases hw with rfl | rfl <;> simp [emitId]
    simp only [List.filterMap_append, hwf, List.append_nil, List.filterMap_cons, emitId, List.filterMap_nil]
    rw [List.nodup_append]
    refine ⟨h.distinct, by simp, ?_⟩
    intro a ha b hb' hab
    simp only [List.mem_singleton] at hb'
    subst hb'; subst hab
    rw [List.mem_filterMap] at ha
    obtain ⟨e, hin, hid⟩ := ha
    exact absurd (h.fresh e hin _ hid).2 (Nat.lt_irrefl _)

theorem e_congr {s u : JSt} (h : EInv s) (he : u.events = s.events) (hn : u.nextId = s.nextId)
    (hc : u.cfg = s.cfg) (hx : expected u = expected s) : EInv u :=
  ⟨fun hnc => by
      have := h.copy (by rw [← hc]; exact hnc)
      exact ⟨by rw [hn]; exact this.base, by rw [he, hn]; exact this.fresh, by rw [he]; exact this.distinct⟩,
   fun hnc => by rw [he, hx]; exact h.nocopy (by rw [← hc]; exact hnc)⟩

theorem held_run {s : JSt} (h : EInv s) (hc : s.cfg.noCopy = true) (hrun : s.pc = .run) :
    heldNC s.events = some false := by
  have := h.nocopy hc
  rwa [expected, hrun] at this

theorem e_jlog {s : JSt} (h : EInv s) (xs : List Nat) : EInv (jlog s xs) := e_congr h rfl rfl rfl rfl

theorem expected_jpass {s : JSt} (hrun : s.pc = .run) (t : Nat) (tk : Bool) (nx : Option (Nat × List Nat)) :
    expected (jpass s t tk nx) = decide (s.buf ≠ [] ∧ s.cfg.noCopy = true) := by
  by_cases hh : s.buf ≠ [] ∧ s.cfg.noCopy = true <;> simp [expected, jpass_pc, hh, hrun]

theorem e_jpass {s : JSt} (h : EInv s) (hrun : s.pc = .run) (t : Nat) (tk : Bool) (nx : Option (Nat × List Nat)) :
    EInv (jpass s t tk nx) := by
  by_cases hb : s.buf = []
  · rw [jpass_empty_eq s t tk nx hb]; exact e_congr h rfl rfl rfl rfl
  · by_cases hc : s.cfg.noCopy = true
    · rw [jpass_nocopy_eq s t tk nx hb hc]
      refine ⟨fun hnc => by simp [hc] at hnc, fun _ => ?_⟩
      simp [heldNC_append, held_run h hc hrun, scanNC, expected]
    · have hc' : s.cfg.noCopy = false := by simpa using hc
      rw [jpass_copy_eq s t tk nx hb hc']
      refine ⟨fun _ => copy_emit (h.copy hc') s.buf [JEvent.write] (Or.inr rfl) rfl rfl, fun hnc => ?_⟩
      simp [hc'] at hnc

theorem e_appendPath {s : JSt} (h : EInv s) (hrun : s.pc = .run) (xs : List Nat) (t : Nat) :
    EInv (jappendPath s xs t) := by
  have happ : EInv (jappend s xs t) := by
    refine ⟨fun hnc => copy_write (h.copy hnc) rfl rfl, fun hnc => ?_⟩
    simp [jappend, heldNC_append, held_run h hnc hrun, scanNC, expected, hrun]
  rw [jappendPath_eq]
  split
  · exact happ
  · exact e_jpass happ hrun t false none

theorem e_cont {s : JSt} (h : EInv s) (hrun : s.pc = .run) (id : Nat) (xs : List Nat) (t : Nat) :
    EInv (jcont (jlog s xs) id xs t) := by
  by_cases hbig : s.cfg.size ≤ xs.length
  · have hcfg := (jtake_frame s id xs t).cfg
    cases hc : s.cfg.noCopy with
    | true =>
      refine ⟨fun hnc => (by rw [hcfg, hc] at hnc; cases hnc), fun _ => ?_⟩
      rw [jtake_big_nocopy id t hbig hc]
      simp [heldNC_append, held_run h hc hrun, scanNC, expected]
    | false =>
      refine ⟨fun _ => ?_, fun hnc => (by rw [hcfg, hc] at hnc; cases hnc)⟩
      rw [jtake_big_copy id t hbig hc]
      exact copy_emit (h.copy hc) xs [] (Or.inl rfl) (by simp) rfl
  · rw [jtake_small id t (Nat.not_le.1 hbig)]
    exact e_appendPath (e_jlog h xs) hrun xs t

theorem e_release {s : JSt} (hj : JInv s) (h : EInv s) {nx : Option (Nat × List Nat)} (hpc : s.pc = .await nx)
    (t : Nat) : EInv (jrelease s t) := by
  have hnc := hj.awaitNC nx hpc
  have hheld := h.nocopy hnc
  simp only [expected, hpc] at hheld
  have hf := jrelease_frame s t
  refine ⟨fun hc => (by rw [hf.cfg, hnc] at hc; cases hc), fun _ => ?_⟩
  have hx : expected (jrelease s t) = false := by
    cases hc : s.closing with
    | true => simp [expected, jrelease_pc_done t hc, hf.unreleased, unreleased_false hj hpc nofun]
    | false => simp [expected, jrelease_pc_run t hc]
  rw [hx]
  by_cases hb : s.buf = [] <;> simp [jrelease, hb, heldNC_append, hheld, scanNC]

/-- **One step keeps `EInv`**: copy mode, every emitted identity is a fresh clone; no-copy mode, no
    write and no emission while a slice is out. -/
theorem e_step (s s' : JSt) (a : JAct) (hj : JInv s) (h : EInv s) (hs : JStep s a s') : EInv s' := by
  cases hs with
  | skip | idle => exact h
  | join hpc => exact e_appendPath (e_jlog h _) hpc _ _
  | hold hpc | tick hpc => exact e_jpass h hpc _ _ _
  | @flush _ xs t hpc _ _ hb hc =>
    have h1 := e_jpass h hpc t false none
    rw [jpass_copy_eq s t false none hb hc] at h1 ⊢
    exact e_cont h1 hpc _ _ _
  | take hpc => exact e_cont h hpc _ _ _
  | @closeHold t hpc => exact e_congr (e_jpass h hpc t false none) rfl rfl rfl rfl
  | @closeDone t hpc hnh =>
    refine e_congr (e_jpass h hpc t false none) rfl rfl rfl ?_
    rw [expected_jpass hpc]
    simp [hnh, expected, (jpass_frame s t false none).unreleased, unreleased_false hj hpc nofun]
  | @stopFlush t hpc =>
    refine e_congr (e_jpass h hpc t false none) rfl rfl rfl ?_
    rw [expected_jpass hpc]
    simp [expected, unreleased_false hj hpc nofun]
  | release hpc => exact e_release hj h hpc _
  | @resume _ xs t hpc =>
    exact e_cont (e_release hj h hpc t) (jrelease_pc_run t (closing_false_of_some hj hpc)) _ _ _
  | stop => exact e_congr h rfl rfl rfl rfl
  | stopRun hpc => exact e_congr h rfl rfl rfl (by simp [expected, hpc, unreleased_false hj hpc nofun])
  | stopAwait hpc => exact e_congr h rfl rfl rfl (by simp [expected, hpc])

theorem e_init (cfg : JCfg) (t0 : Nat) : EInv (jinit cfg t0) :=
  ⟨fun _ => ⟨by simp [jinit], by simp [jinit], by simp [jinit]⟩, fun _ => by simp [jinit, heldNC, expected]⟩

theorem e_run (acts : List JAct) (s s' : JSt) (hj : JInv s) (h : EInv s) (hr : jrun s acts = some s') :
    EInv s' ∧ JInv s' ∧ s'.cfg = s.cfg :=
  jrun_induction (I := fun u => EInv u ∧ JInv u ∧ u.cfg = s.cfg)
    (fun hu hs => ⟨e_step _ _ _ hu.2.1 hu.1 hs, jstep_inv _ _ _ hu.2.1 hs, hs.cfg_eq.trans hu.2.2⟩)
    ⟨h, hj, rfl⟩ hr

/-- **C08 (copy mode).** After any run every emitted slice has a fresh identity: it is not
    the accumulation buffer (object 0), not an input slice (`< 1000000`), and no two emitted
    slices share an identity.  All writes of the discipline target object 0, so a delivered
    slice is never modified and shares no memory with any later output. -/
theorem c08_copy (cfg : JCfg) (t0 : Nat) (hsz : 0 < cfg.size) (hc : cfg.noCopy = false)
    (acts : List JAct) (s : JSt) (hr : jrun (jinit cfg t0) acts = some s) :
    (∀ e ∈ s.events, ∀ id, emitId e = some id → 1000000 ≤ id) ∧ (s.events.filterMap emitId).Nodup := by
  obtain ⟨he, _, hcf⟩ := e_run acts _ s (jinit_inv cfg t0 hsz) (e_init cfg t0) hr
  have := he.copy (by rw [hcf]; exact hc)
  exact ⟨fun e hin id hid => (this.fresh e hin id hid).1, this.distinct⟩

/-- **C08 (no-copy mode).** After any run the event log scans without failure: between an
    emission and the release that follows it there is no write into the buffer and no
    further emission; and a slice is out exactly when the machine waits for its release (or
    was stopped while waiting). -/
theorem c08_nocopy (cfg : JCfg) (t0 : Nat) (hsz : 0 < cfg.size) (hc : cfg.noCopy = true)
    (acts : List JAct) (s : JSt) (hr : jrun (jinit cfg t0) acts = some s) :
    heldNC s.events = some (expected s) := by
  obtain ⟨he, _, hcf⟩ := e_run acts _ s (jinit_inv cfg t0 hsz) (e_init cfg t0) hr
  exact he.nocopy (by rw [hcf]; exact hc)

/-- while a slice awaits its release only the release (or, v1, Stop) can happen -/
theorem c08_await_only_release (s s' : JSt) (a : JAct) (n : Option (Nat × List Nat)) (hpc : s.pc = .await n)
    (hs : jstep s a = some s') : (∃ t, a = .release t) ∨ a = .stop ∨ (∃ t, a = .stopSeen t) := by
  cases JStep.of_jstep hs with
  | release | resume => exact Or.inl ⟨_, rfl⟩
  | stop => exact Or.inr (Or.inl rfl)
  | stopAwait => exact Or.inr (Or.inr ⟨_, rfl⟩)
  | skip h | join h | hold h | flush h | take h | idle h | tick h | closeHold h | closeDone h | stopRun h
  | stopFlush h => rw [hpc] at h; cases h

/-- **C08 (v1: stopped before the release signal).** Once the machine is `done` (in
    particular after `unreleased` was set) the event log never changes again: the delivered
    slice is never touched. -/
theorem c08_v1_frozen (s s' : JSt) (a : JAct) (hpc : s.pc = .done) (hs : jstep s a = some s') :
    s'.events = s.events ∧ s'.buf = s.buf ∧ s'.pc = .done := by
  cases JStep.of_jstep hs with
  | stop => exact ⟨rfl, rfl, hpc⟩
  | skip h | join h | hold h | flush h | take h | idle h | tick h | closeHold h | closeDone h | stopRun h
  | stopFlush h | release h | resume h | stopAwait h => rw [hpc] at h; cases h

/-- **C08 (capacity).** The accumulation buffer never holds more than JoinSize elements,
    which is the capacity it was created with: Go's `append` never reallocates it, so the
    identity model (one buffer object) is the right one. -/
theorem c08_cap (cfg : JCfg) (t0 : Nat) (hsz : 0 < cfg.size) (acts : List JAct) (s : JSt)
    (hr : jrun (jinit cfg t0) acts = some s) : s.buf.length ≤ cfg.size := by
  obtain ⟨_, hj, hcf⟩ := e_run acts _ s (jinit_inv cfg t0 hsz) (e_init cfg t0) hr
  have := hj.le; rw [hcf] at this; exact this

example :
    (jrun (jinit ⟨.join, 2, 0, true, false⟩ 0) [.item 1 [1] 1, .item 2 [2] 2, .release 3, .item 3 [3] 4]).map
      (fun s => (s.events, heldNC s.events)) =
    some ([.write, .write, .emit 0 [1, 2], .released, .write, .write], some false) := by decide +kernel

end Cqos.C08
