import Cqos.Props.C06
import Cqos.Props.C07
import Cqos.Lemmas.Iter
/-
  Property C07, promptness clause — "… and does so promptly once that is the case".

  In a quiet state — every registered input closed and empty, nothing in flight, no release unread —
  the discipline's next own step keeps the state quiet and strictly decreases `pmu`, which is at most
  4·n + 12 plus what is left of the current phase (n priorities; `pmu_le`): the rest of the current round, one full round in which every input is
  found closed and marked drained, then `drain → done`.  The step argument is made once
  (`quiet_step`), for what a quiet v2 discipline (`Quiet`) shares with a quiet v1 discipline on
  which `GracefulStop()` was called (`QuietG`).
-/
namespace Cqos.C07
open Cqos.C06

structure Quiet (s : St) : Prop where
  v2 : s.cfg.v1 = false
  closedEmpty : ∀ p inp, alGet s.inputs p = some inp →
    ∃ ch, alGet s.chans inp.chan = some ch ∧ ch.closed = true ∧ ch.queue = []
  pend : s.pending = []
  idle : s.actual.total = 0
  nodup : s.prios.Nodup
  hsum : sumOver s.prios s.strategic = s.cfg.H
  hH : 0 < s.cfg.H
  fill : ∀ p ∈ s.prios, 1 ≤ s.strategic.get p
  regs : ∀ p inp, alGet s.inputs p = some inp → p ∈ s.prios
  inputsNd : (alKeys s.inputs).Nodup
  pcOK : s.pc ≠ .top ∧ s.pc ≠ .fault ∧ s.pc ≠ .waitFb

/-- the round in progress started from a quiet state: nothing was delivered in it and every
    input still undrained is still ahead in phase 1 with a positive allotment -/
def goodRound (s : St) : Prop :=
  s.processed = 0 ∧
  match s.pc with
  | .prio ph rest =>
    if ph = 1 then ∀ p inp, alGet s.inputs p = some inp → inp.drained = false → p ∈ rest ∧ 0 < s.tactic.get p
    else ∀ p inp, alGet s.inputs p = some inp → inp.drained = true
  | _ => True

/-- the discipline's next action in a quiet state -/
def promptAct (s : St) : Act :=
  match s.pc with
  | .calc => .calc
  | .prio ph [] => if ph = 1 then .recalc else .endRound
  | .prio _ (p :: _) =>
    (match alGet s.inputs p with
     | none => .skip
     | some inp => if inp.drained ∨ s.tactic.get p = 0 then .skip else .pollClosed)
  | .limited _ => .limitedStop
  | .drain _ => .exit
  | _ => .exit

open Classical in
/-- what a round that did not start from a quiet state may cost in addition: one more round -/
noncomputable def extra (s : St) : Nat := if goodRound s then 0 else 2 * s.prios.length + 8

theorem extra_good {s : St} (h : goodRound s) : extra s = 0 := by simp [extra, h]
theorem extra_bad {s : St} (h : ¬ goodRound s) : extra s = 2 * s.prios.length + 8 := by simp [extra, h]
theorem extra_le (s : St) : extra s ≤ 2 * s.prios.length + 8 := by
  unfold extra; split <;> omega
theorem extra_mono {s s' : St} (hp : s'.prios = s.prios) (h : goodRound s → goodRound s') : extra s' ≤ extra s := by
  by_cases hg : goodRound s
  · rw [extra_good (h hg), extra_good hg]; exact Nat.le_refl _
  · rw [extra_bad hg, ← hp]; exact extra_le s'

/-- distance to termination -/
noncomputable def pmu (s : St) : Nat :=
  match s.pc with
  | .done _ => 0
  | .drain _ => 1
  | .limited _ => 2 * s.prios.length + 6
  | .calc => 2 * s.prios.length + 4 + extra s
  | .prio ph rest => (if ph = 1 then rest.length + s.prios.length + 3 else rest.length + 2) + extra s
  | _ => 0

theorem pmu_done {s : St} {e} (h : s.pc = .done e) : pmu s = 0 := by simp [pmu, h]
theorem pmu_drain {s : St} {e} (h : s.pc = .drain e) : pmu s = 1 := by simp [pmu, h]
theorem pmu_limited {s : St} {k} (h : s.pc = .limited k) : pmu s = 2 * s.prios.length + 6 := by simp [pmu, h]
theorem pmu_calc {s : St} (h : s.pc = .calc) : pmu s = 2 * s.prios.length + 4 + extra s := by simp [pmu, h]
theorem pmu_prio1 {s : St} {rest} (h : s.pc = .prio 1 rest) : pmu s = rest.length + s.prios.length + 3 + extra s := by
  simp [pmu, h]
theorem pmu_prio2 {s : St} {ph rest} (h : s.pc = .prio ph rest) (h1 : ph ≠ 1) : pmu s = rest.length + 2 + extra s := by
  simp [pmu, h, h1]

structure QuietG (s : St) : Prop where
  v1 : s.cfg.v1 = true
  gr : s.graceful = true
  ns : s.stopped = false
  closedEmpty : ∀ p inp, alGet s.inputs p = some inp →
    ∃ ch, alGet s.chans inp.chan = some ch ∧ ch.closed = true ∧ ch.queue = []
  pend : s.pending = []
  idle : s.actual.total = 0
  nodup : s.prios.Nodup
  hsum : sumOver s.prios s.strategic = s.cfg.H
  hH : 0 < s.cfg.H
  fill : ∀ p ∈ s.prios, 1 ≤ s.strategic.get p
  regs : ∀ p inp, alGet s.inputs p = some inp → p ∈ s.prios
  inputsNd : (alKeys s.inputs).Nodup
  pcOK : s.pc ≠ .fault ∧ s.pc ≠ .waitFb

/-- the discipline's next action in a quiet v1 state with a graceful stop pending -/
def promptActG (s : St) : Act :=
  match s.pc with
  | .top => .top .none
  | _ => promptAct s

def atTop (s : St) : Bool := match s.pc with | .top => true | _ => false

/-- distance to termination -/
noncomputable def pmuG (s : St) : Nat :=
  match s.pc with
  | .top => 2 * s.prios.length + 5
  | _ => pmu s

theorem pmuG_top {s : St} (h : s.pc = .top) : pmuG s = 2 * s.prios.length + 5 := by simp [pmuG, h]

theorem pmuG_eq {s : St} (h : s.pc ≠ .top) : pmuG s = pmu s := by
  unfold pmuG; split
  · rename_i h'; exact absurd h' h
  · rfl

theorem promptActG_eq {s : St} (h : s.pc ≠ .top) : promptActG s = promptAct s := by
  unfold promptActG; split
  · rename_i h'; exact absurd h' h
  · rfl

/-- what `Quiet` and `QuietG` share, with `loop`'s condition for leaving in place of the version -/
structure QuietC (s : St) : Prop where
  closedEmpty : ∀ p inp, alGet s.inputs p = some inp →
    ∃ ch, alGet s.chans inp.chan = some ch ∧ ch.closed = true ∧ ch.queue = []
  pend : s.pending = []
  idle : s.actual.total = 0
  nodup : s.prios.Nodup
  hsum : sumOver s.prios s.strategic = s.cfg.H
  hH : 0 < s.cfg.H
  fill : ∀ p ∈ s.prios, 1 ≤ s.strategic.get p
  regs : ∀ p inp, alGet s.inputs p = some inp → p ∈ s.prios
  inputsNd : (alKeys s.inputs).Nodup
  pcOK : s.pc ≠ .fault ∧ s.pc ≠ .waitFb
  mayLeave : ¬ s.cfg.v1 ∨ s.graceful
  topV1 : s.pc = .top → s.cfg.v1 = true

theorem Quiet.toC {s : St} (h : Quiet s) : QuietC s :=
  ⟨h.closedEmpty, h.pend, h.idle, h.nodup, h.hsum, h.hH, h.fill, h.regs, h.inputsNd, ⟨h.pcOK.2.1, h.pcOK.2.2⟩,
   .inl (by simp [h.v2]), fun e => absurd e h.pcOK.1⟩

theorem QuietG.toC {s : St} (h : QuietG s) : QuietC s :=
  ⟨h.closedEmpty, h.pend, h.idle, h.nodup, h.hsum, h.hH, h.fill, h.regs, h.inputsNd, h.pcOK, .inr h.gr, fun _ => h.v1⟩

theorem QuietC.quiet {s : St} (h : QuietC s) (hv : s.cfg.v1 = false) : Quiet s :=
  ⟨hv, h.closedEmpty, h.pend, h.idle, h.nodup, h.hsum, h.hH, h.fill, h.regs, h.inputsNd,
   (fun e => by have := h.topV1 e; rw [hv] at this; cases this), h.pcOK.1, h.pcOK.2⟩

theorem QuietC.quietG {s : St} (h : QuietC s) (hv : s.cfg.v1 = true) (hg : s.graceful = true) (hs : s.stopped = false) :
    QuietG s :=
  ⟨hv, hg, hs, h.closedEmpty, h.pend, h.idle, h.nodup, h.hsum, h.hH, h.fill, h.regs, h.inputsNd, h.pcOK⟩

theorem QuietC.ctrl {s s' : St} (h : QuietC s) (hf : CtrlFrame s s') (hpc : s'.pc ≠ .fault ∧ s'.pc ≠ .waitFb)
    (htop : s'.pc = .top → s.cfg.v1 = true) : QuietC s' := by
  obtain ⟨_, _, _, _, _, rfl⟩ := hf
  exact { h with pcOK := hpc, topV1 := htop }

/-- `prioritize` moves on from a head priority `p` whose input had no allotment or has just been
    marked drained (`hin`) -/
theorem goodRound_advance {s s' : St} {ph p : Nat} {rest : List Nat} (hpc : s.pc = .prio ph (p :: rest))
    (hpc' : s'.pc = .prio ph rest) (hpr : s'.processed = s.processed) (ht : s'.tactic = s.tactic)
    (hin : ∀ q inp, alGet s'.inputs q = some inp → inp.drained = false →
      alGet s.inputs q = some inp ∧ (q = p → s.tactic.get p = 0))
    (hg : goodRound s) : goodRound s' := by
  refine ⟨by rw [hpr]; exact hg.1, ?_⟩
  have h2 := hg.2
  rw [hpc] at h2
  rw [hpc']
  by_cases h1 : ph = 1
  · simp only [h1, if_true] at h2 ⊢
    intro q inp hq hd
    obtain ⟨hq0, hz⟩ := hin q inp hq hd
    obtain ⟨hm, hpos⟩ := h2 q inp hq0 hd
    rcases List.mem_cons.1 hm with rfl | hm'
    · have := hz rfl; omega
    · exact ⟨hm', by rw [ht]; exact hpos⟩
  · simp only [h1, if_false] at h2 ⊢
    intro q inp hq
    cases hd : inp.drained with
    | true => rfl
    | false => have := h2 q inp (hin q inp hq hd).1; rw [hd] at this; cases this

theorem promptAct_poll {s : St} {ph p : Nat} {rest : List Nat} (hpc : s.pc = .prio ph (p :: rest)) :
    (Skips s p → promptAct s = .skip) ∧ (∀ inp ch, Polls s p inp ch → promptAct s = .pollClosed) := by
  simp only [promptAct, hpc]
  refine ⟨fun hs => ?_, fun inp ch hP => ?_⟩
  · split
    · rfl
    · rename_i inp hin; rw [if_pos (hs inp hin)]
  · simp [hP.input, hP.undrained, hP.share]

/-- **Promptness, one step, both versions.** In a quiet state that has not terminated the
    discipline's next own action is enabled, leads to a quiet state and strictly decreases `pmuG`. -/
theorem quiet_step (div : DivFn) (s : St) (hq : QuietC s) (hnd : ∀ e, s.pc ≠ .done e) :
    ∃ s', step div s (promptActG s) = some s' ∧ QuietC s' ∧ pmuG s' < pmuG s ∧
      s'.prios = s.prios ∧ s'.cfg = s.cfg ∧ s'.graceful = s.graceful ∧ s'.stopped = s.stopped := by
  cases hpc : s.pc with
  | done e => exact absurd hpc (hnd e)
  | fault => exact absurd hpc hq.pcOK.1
  | waitFb => exact absurd hpc hq.pcOK.2
  | top =>
    have hv := hq.topV1 hpc
    refine ⟨afterTop s, ?_, ?_, ?_, rfl, rfl, rfl, rfl⟩
    · rw [show promptActG s = .top .none by simp [promptActG, hpc]]; exact (Step.own hpc (.topNone hv)).step_eq
    · exact { hq with idle := (total_clearActual _ _).trans hq.idle, pcOK := ⟨nofun, nofun⟩, topV1 := nofun }
    · have hg : goodRound (afterTop s) := ⟨rfl, trivial⟩
      rw [pmuG_eq (s := afterTop s) nofun, pmu_calc (s := afterTop s) rfl, pmuG_top hpc, extra_good hg]
      show 2 * s.prios.length + 4 + 0 < _
      omega
  | «calc» =>
    obtain ⟨hpc', htac⟩ := c06_calc_idle div s hq.hsum hq.hH hq.idle
    have f5 : (stepCalc div s).prios = s.prios := by rw [stepCalc_eq]
    refine ⟨stepCalc div s, ?_, ?_, ?_, ?_⟩
    · rw [show promptActG s = .calc by simp [promptActG, promptAct, hpc]]; exact (Step.own hpc .calc).step_eq
    · exact hq.ctrl ⟨_, _, _, _, _, stepCalc_eq div s⟩ (by rw [hpc']; exact ⟨nofun, nofun⟩) (by rw [hpc']; nofun)
    · -- the new round is good whenever `processed = 0`; otherwise both sides carry the extra
      have hgood' : goodRound s → goodRound (stepCalc div s) := by
        intro hg
        refine ⟨by rw [stepCalc_eq]; exact hg.1, ?_⟩
        rw [hpc']
        simp only [if_true]
        intro p inp hp _
        rw [stepCalc_eq] at hp
        have hmem := hq.regs p inp hp
        exact ⟨hmem, by rw [htac p hmem]; exact hq.fill p hmem⟩
      have := extra_mono f5 hgood'
      rw [pmuG_eq (by rw [hpc']; nofun), pmuG_eq (by rw [hpc]; nofun), pmu_prio1 hpc', pmu_calc hpc, f5]; omega
    · rw [stepCalc_eq]; exact ⟨rfl, rfl, rfl, rfl⟩
  | limited k =>
    refine ⟨nextRound s, ?_, ?_, ?_, rfl, rfl, rfl, rfl⟩
    · rw [show promptActG s = .limitedStop by simp [promptActG, promptAct, hpc]]
      exact (Step.own hpc .limitedStop).step_eq
    · refine hq.ctrl ⟨_, _, _, _, _, rfl⟩ ?_ fun e => ?_
      · rcases nextRound_pc s with e | e <;> rw [e] <;> exact ⟨nofun, nofun⟩
      · cases hv : s.cfg.v1 with
        | true => rfl
        | false => simp [nextRound, hv] at e
    · rw [pmuG_eq (s := s) (by rw [hpc]; nofun), pmu_limited hpc]
      cases hv : s.cfg.v1
      · have hpc' : (nextRound s).pc = .calc := by rw [nextRound_v2 hv]
        have hg : goodRound (nextRound s) := ⟨rfl, by rw [hpc']; trivial⟩
        rw [pmuG_eq (by rw [hpc']; nofun), pmu_calc hpc', extra_good hg]
        show 2 * s.prios.length + 4 + 0 < _
        omega
      · rw [pmuG_top (by rw [nextRound_v1 hv])]
        show 2 * s.prios.length + 5 < _
        omega
  | drain e =>
    have hz : s.actual.allZero = true := (Dist.allZero_iff_total _).2 hq.idle
    refine ⟨{ s with pc := .done e }, ?_, hq.ctrl (.goto s _) ⟨nofun, nofun⟩ nofun, ?_, rfl, rfl, rfl, rfl⟩
    · rw [show promptActG s = .exit by simp [promptActG, promptAct, hpc]]
      exact (Step.own hpc (.goto (.exit hz))).step_eq
    · rw [pmuG_eq (s := { s with pc := .done e }) nofun, pmuG_eq (by rw [hpc]; nofun),
        pmu_done (s := { s with pc := .done e }) rfl, pmu_drain hpc]
      omega
  | prio ph rest =>
    have hnt : s.pc ≠ .top := by rw [hpc]; nofun
    cases rest with
    | nil =>
      by_cases h1 : ph = 1
      · subst h1
        have f5 : (stepRecalc div s).prios = s.prios := by rw [stepRecalc_eq]
        refine ⟨stepRecalc div s, ?_, ?_, ?_, ?_⟩
        · rw [show promptActG s = .recalc by simp [promptActG, promptAct, hpc]]; exact (Step.own hpc .recalc).step_eq
        · refine hq.ctrl ⟨_, _, _, _, _, stepRecalc_eq div s⟩ ?_ ?_ <;>
            rcases stepRecalc_pc div s with e | e | ⟨_, e⟩ <;> rw [e] <;> first | exact ⟨nofun, nofun⟩ | nofun
        · rw [pmuG_eq hnt, pmu_prio1 hpc]
          -- after `recalc` the second phase starts: a good round has every input drained by now
          have key : ∀ r, r.length ≤ s.prios.length → (stepRecalc div s).pc = .prio 2 r →
              pmuG (stepRecalc div s) < ([] : List Nat).length + s.prios.length + 3 + extra s := by
            intro r hlen hr
            have hgood' : goodRound s → goodRound (stepRecalc div s) := by
              intro hg
              refine ⟨by rw [stepRecalc_eq]; exact hg.1, ?_⟩
              rw [hr]
              simp only [show ¬ (2 = 1) by decide, if_false]
              intro p inp hp
              rw [stepRecalc_eq] at hp
              have := hg.2
              rw [hpc] at this
              simp only [if_true] at this
              cases hd : inp.drained with
              | true => rfl
              | false => exact absurd (this p inp hp hd).1 (by simp)
            have := extra_mono f5 hgood'
            rw [pmuG_eq (by rw [hr]; nofun), pmu_prio2 hr (by decide)]
            simp only [List.length_nil]; omega
          rcases stepRecalc_pc div s with e | e | ⟨x, e⟩
          · exact key _ (Nat.le_refl _) e
          · exact key _ (Nat.zero_le _) e
          · rw [pmuG_eq (by rw [e]; nofun), pmu_drain e]; omega
        · rw [stepRecalc_eq]; exact ⟨rfl, rfl, rfl, rfl⟩
      · rw [show promptActG s = .endRound by simp [promptActG, promptAct, hpc, h1], pmuG_eq hnt, pmu_prio2 hpc h1]
        by_cases hc : s.processed = 0 ∧ (¬ s.cfg.v1 ∨ s.graceful) ∧ allDrained s.inputs
        · refine ⟨_, (Step.own hpc (.goto (.endDrain h1 hc.1 hc.2.1 hc.2.2))).step_eq, hq.ctrl (.goto s _) ⟨nofun, nofun⟩ nofun, ?_,
            rfl, rfl, rfl, rfl⟩
          rw [pmuG_eq (s := { s with pc := .drain none }) nofun, pmu_drain (s := { s with pc := .drain none }) rfl]
          omega
        · refine ⟨_, (Step.own hpc (.goto (.endLimited h1 hc))).step_eq, hq.ctrl (.goto s _) ⟨nofun, nofun⟩ nofun, ?_,
            rfl, rfl, rfl, rfl⟩
          -- only a round that is not good can end here
          have hbad : ¬ goodRound s := by
            intro hg
            apply hc
            refine ⟨hg.1, hq.mayLeave, ?_⟩
            have := hg.2
            rw [hpc] at this
            simp only [h1, if_false] at this
            exact all_of_alGet s.inputs _ hq.inputsNd this
          rw [pmuG_eq (s := { s with pc := .limited s.cfg.fbLimit }) nofun,
            pmu_limited (s := { s with pc := .limited s.cfg.fbLimit }) rfl, extra_bad hbad]
          show 2 * s.prios.length + 6 < _
          simp only [List.length_nil]; omega
    | cons p rest =>
      -- the possible extra of the successor never exceeds that of `s` once goodness is kept
      have hmu : ∀ s' : St, s'.prios = s.prios → s'.pc = .prio ph rest → (goodRound s → goodRound s') → pmuG s' < pmuG s := by
        intro s' hpr hpc' hg
        have := extra_mono hpr hg
        rw [pmuG_eq hnt, pmuG_eq (by rw [hpc']; nofun)]
        by_cases h1 : ph = 1
        · subst h1
          rw [pmu_prio1 hpc', pmu_prio1 hpc, hpr]; simp only [List.length_cons]; omega
        · rw [pmu_prio2 hpc' h1, pmu_prio2 hpc h1]; simp only [List.length_cons]; omega
      rw [promptActG_eq hnt]
      rcases skips_or_polls (p := p) (fun inp hin => by obtain ⟨ch, h, _⟩ := hq.closedEmpty p inp hin; rw [h]; rfl)
        with hsk | ⟨inp, ch, hP⟩
      · refine ⟨{ s with pc := .prio ph rest }, ?_, hq.ctrl (.goto s _) ⟨nofun, nofun⟩ nofun, ?_, rfl, rfl, rfl, rfl⟩
        · rw [(promptAct_poll hpc).1 hsk]; exact (Step.own hpc (.goto (.skip hsk))).step_eq
        · refine hmu _ rfl rfl (goodRound_advance hpc rfl rfl rfl fun q inp' hq' hd => ⟨hq', fun e => ?_⟩)
          subst e
          rcases hsk inp' hq' with h | h
          · rw [h] at hd; cases hd
          · exact h
      · obtain ⟨ch', hch', hcl, hqe⟩ := hq.closedEmpty p inp hP.input
        cases hP.chan.symm.trans hch'
        have hin' : ∀ q inp', alGet (alSet s.inputs p { inp with drained := true }) q = some inp' →
            (q = p ∧ inp'.drained = true ∧ inp'.chan = inp.chan) ∨ (q ≠ p ∧ alGet s.inputs q = some inp') := by
          intro q inp' hq'
          rw [alGet_alSet] at hq'
          split at hq'
          · rename_i he; cases hq'; exact .inl ⟨he.symm, rfl, rfl⟩
          · rename_i he; exact .inr ⟨fun e => he e.symm, hq'⟩
        refine ⟨{ s with inputs := alSet s.inputs p { inp with drained := true }, pc := .prio ph rest }, ?_, ?_, ?_,
          rfl, rfl, rfl, rfl⟩
        · rw [(promptAct_poll hpc).2 inp ch hP]; exact (Step.own hpc (.pollClosed hP hqe hcl)).step_eq
        · exact { hq with
            closedEmpty := fun q inp' hq' => by
              rcases hin' q inp' hq' with ⟨_, _, e⟩ | ⟨_, h⟩
              · rw [e]; exact ⟨ch, hP.chan, hcl, hqe⟩
              · exact hq.closedEmpty q inp' h
            regs := fun q inp' hq' => by
              rcases hin' q inp' hq' with ⟨e, _, _⟩ | ⟨_, h⟩
              · rw [e]; exact hq.regs p inp hP.input
              · exact hq.regs q inp' h
            inputsNd := nodup_alSet _ _ _ hq.inputsNd
            pcOK := ⟨nofun, nofun⟩
            topV1 := nofun }
        · refine hmu _ rfl rfl (goodRound_advance hpc rfl rfl rfl fun q inp' hq' hd => ?_)
          rcases hin' q inp' hq' with ⟨_, h, _⟩ | ⟨hne, h⟩
          · rw [h] at hd; cases hd
          · exact ⟨h, fun e => absurd e hne⟩

/-- **C07 (promptness, one step).** In a quiet v2 state that has not terminated, `promptAct`
    is enabled, leads to a quiet state and strictly decreases `pmu`. -/
theorem c07_prompt_step (div : DivFn) (s : St) (hq : Quiet s) (hnd : ∀ e, s.pc ≠ .done e) :
    ∃ s', step div s (promptAct s) = some s' ∧ Quiet s' ∧ pmu s' < pmu s ∧ s'.prios = s.prios := by
  obtain ⟨s', hs, hq', hlt, hp, hc, _, _⟩ := quiet_step div s hq.toC hnd
  have hq'' := hq'.quiet (by rw [hc]; exact hq.v2)
  rw [promptActG_eq hq.pcOK.1] at hs
  rw [pmuG_eq hq.pcOK.1, pmuG_eq hq''.pcOK.1] at hlt
  exact ⟨s', hs, hq'', hlt, hp⟩

theorem pmu_le (s : St) : pmu s ≤ 4 * s.prios.length + 12 + (match s.pc with | .prio _ rest => rest.length | _ => 0) := by
  have := extra_le s
  unfold pmu
  cases s.pc <;> simp only <;> (try split) <;> omega

def promptRun (div : DivFn) : Nat → St → St
  | 0, s => s
  | k + 1, s =>
    match step div s (promptAct s) with
    | some s' => promptRun div k s'
    | none => s

theorem promptRun_iterates (div : DivFn) : Iterates (fun s => step div s (promptAct s)) (promptRun div) :=
  ⟨fun _ => rfl, fun n s => by rw [promptRun]; cases step div s (promptAct s) <;> rfl⟩

/-- **C07 (promptness).** From every quiet v2 state the discipline terminates by itself — no
    release, no arrival, no timer — within `pmu s` of its own steps. -/
theorem c07_prompt (div : DivFn) (n : Nat) (s : St) (hq : Quiet s) (hn : pmu s ≤ n) :
    ∃ e, (promptRun div n s).pc = .done e :=
  ((promptRun_iterates div).reaches (P := Quiet) (D := fun s => ∃ e, s.pc = .done e) (μ := pmu)
    (fun s hq hd => by
      obtain ⟨s', hs, hq', hlt, _⟩ := c07_prompt_step div s hq (fun e he => hd ⟨e, he⟩)
      exact ⟨s', hs, hq', hlt⟩)
    (fun s ⟨e, he⟩ => by unfold step; simp [promptAct, he]) n s hq hn).2

/-- "that is the case", where the invariants hold: quiet, and at most `5·n + 12` own steps from `done` -/
theorem QuietC.of_inv {s : St} (hinv : Inv s) (hwf : C15.WF s)
    (hclosed : ∀ p inp, alGet s.inputs p = some inp →
      ∃ ch, alGet s.chans inp.chan = some ch ∧ ch.closed = true ∧ ch.queue = [])
    (hfl : s.inflight.total = 0) (hpend : s.pending = []) (hsum : sumOver s.prios s.strategic = s.cfg.H)
    (hH : 0 < s.cfg.H) (hfill : ∀ p ∈ s.prios, 1 ≤ s.strategic.get p) (hleave : ¬ s.cfg.v1 ∨ s.graceful)
    (htop : s.pc = .top → s.cfg.v1 = true) (hnw : s.pc ≠ .waitFb) :
    QuietC s ∧ pmuG s ≤ 5 * s.prios.length + 12 := by
  have hidle : s.actual.total = 0 := by
    have := hinv.core.tot
    rw [hfl, hpend] at this
    simpa using this
  refine ⟨⟨hclosed, hpend, hidle, hwf.nodup, hsum, hH, hfill, fun p inp hp => (hwf.regs p).2 (by rw [hp]; rfl),
    hwf.inputsNd, ⟨hinv.nofault, hnw⟩, hleave, htop⟩, ?_⟩
  have hb : pmuG s ≤ 4 * s.prios.length + 12 + (match s.pc with | .prio _ rest => rest.length | _ => 0) := by
    by_cases h : s.pc = .top
    · rw [pmuG_top h]; omega
    · rw [pmuG_eq h]; exact pmu_le s
  have hrest : (match s.pc with | .prio _ rest => rest.length | _ => 0) ≤ s.prios.length := by
    cases hpc : s.pc with
    | prio ph rest => exact (hwf.restSub ph rest hpc).length_le
    | _ => simp
  omega

/-- **C07 (promptness, reachable states).** After ANY run of a v2 discipline (whose shares
    add up to `H`): if every registered input is closed and empty, nothing is in flight and no
    release is outstanding, then the discipline — by its own steps alone — reaches `done`
    within `4·n + 12 + n` steps, whatever it was doing. -/
theorem c07_prompt_reachable (div : DivFn) (keys : List (Nat × Bool)) (H : Nat) (hH : 0 < H)
    (hnd : (keys.map (·.1)).Nodup) (s0 s : St) (acts : List Act) (h0 : initV2 div keys H = .ok s0)
    (hsum : sumOver s0.prios s0.strategic = H) (hr : run div s0 acts = some s)
    (hclosed : ∀ p inp, alGet s.inputs p = some inp →
      ∃ ch, alGet s.chans inp.chan = some ch ∧ ch.closed = true ∧ ch.queue = [])
    (hfl : s.inflight.total = 0) (hpend : s.pending = []) :
    Quiet s ∧ ∃ e, (promptRun div (5 * s.prios.length + 12) s).pc = .done e := by
  have hH0 := initV2_H h0
  obtain ⟨_, hinv, hwf, _⟩ := reach_initV2 hnd h0 hr
  obtain ⟨c1, c2, c3, c4⟩ := v2_static_run div acts s0 s (initV2_v1 h0) hr
  have hv : s.cfg.v1 = false := by rw [c3]; exact initV2_v1 h0
  have hnt : s.pc ≠ .top := c4 (by rw [initV2_pc h0]; nofun)
  obtain ⟨hq, hb⟩ := QuietC.of_inv hinv hwf hclosed hfl hpend (by rw [c1, c2, c3, hH0]; exact hsum)
    (by rw [c3, hH0]; exact hH) (by rw [c1, c2]; exact initV2_share h0) (.inl (by simp [hv])) (fun e => absurd e hnt)
    (fun hw => by
      have := c06_never_waits_idle div keys H hH hnd s0 s acts h0 hsum hr hw
      rw [hfl, hpend] at this
      simp at this)
  exact ⟨hq.quiet hv, c07_prompt div _ s (hq.quiet hv) (by rw [← pmuG_eq hnt]; exact hb)⟩

/-- **C07 (promptness, every run).** In a quiet state with nothing in flight, whatever is
    enabled is: the discipline's `promptAct`; or an environment action that cannot matter (a
    `close`, or an `arrive` on a channel that is still open, hence not a registered one); or
    `pollEmpty` on an UNBUFFERED head input — Go's `select` taking the interrupter tick although
    the closed channel is ready too.  So with buffered inputs every run follows `promptAct` and
    terminates within the bound; with unbuffered inputs only the runtime's coin can postpone it. -/
theorem c07_prompt_unique (div : DivFn) (s s' : St) (a : Act) (hq : Quiet s) (hfl : s.inflight.total = 0)
    (hs : step div s a = some s') :
    a = promptAct s ∨ (∃ c, a = .close c) ∨
    (∃ c x ch, a = .arrive c x ∧ alGet s.chans c = some ch ∧ ch.closed = false) ∨
    (a = .pollEmpty ∧ ∃ ph p rest inp ch, s.pc = .prio ph (p :: rest) ∧ alGet s.inputs p = some inp ∧
        alGet s.chans inp.chan = some ch ∧ ch.buffered = false) := by
  have v1 : s.cfg.v1 = true → False := fun h => by rw [hq.v2] at h; cases h
  cases step_sound hs with
  | arrive hch hcl => exact .inr (.inr (.inl ⟨_, _, _, rfl, hch, hcl⟩))
  | close _ => exact .inr (.inl ⟨_, rfl⟩)
  | release hne => have := Dist.get_le_total s.inflight ‹_›; omega
  | stop h | graceful h => exact (v1 h).elim
  | own hpc ho =>
    cases ho with
    | goto hg =>
      cases hg with
      | topStop h _ | pollStop _ h _ | drainStop h _ => exact (v1 h).elim
      | endDrain h1 _ _ _ | endLimited h1 _ => exact .inl (by simp [promptAct, hpc, h1])
      | skip hsk => exact .inl ((promptAct_poll hpc).1 hsk).symm
      | exit _ => exact .inl (by simp [promptAct, hpc])
      | @pollEmpty ph p rest inp ch hP he =>
        -- the closed channel is ready too: only the interrupter tick of an unbuffered input gets here
        obtain ⟨ch', hch', hcl, hqe⟩ := hq.closedEmpty p inp hP.input
        cases hP.chan.symm.trans hch'
        refine .inr (.inr (.inr ⟨rfl, ph, p, rest, inp, ch, hpc, hP.input, hP.chan, ?_⟩))
        rcases he with h | ⟨_, h⟩
        · simpa using h
        · exact absurd hcl h
    | consume hp _ _ | wrap hp _ _ => rw [hq.pend] at hp; cases hp
    | topAdd h | topRemove h | topNone h | waitStop h _ | pollDrop _ _ h _ | limitedSeen h _ => exact (v1 h).elim
    | «calc» | recalc | limitedStop => exact .inl (by simp [promptAct, hpc])
    | pollClosed hP _ _ => exact .inl ((promptAct_poll hpc).2 _ _ hP).symm
    | pollItem hP hqx =>
      obtain ⟨ch', hch', _, hqe⟩ := hq.closedEmpty _ _ hP.input
      cases hP.chan.symm.trans hch'
      rw [hqx] at hqe; cases hqe

/-- non-vacuity: "the case" reached mid-round (`processed = 1`, the last release consumed in
    `getLimitedFeedback`); the discipline's own steps end in `done none` -/
example :
    let div : DivFn := fun _ => fair
    (match initV2 div [(2, true), (1, true)] 2 with
     | .ok s0 =>
       (run div s0 [.arrive 2 7, .calc, .pollItem, .close 2, .close 1, .release 2, .skip, .pollClosed, .recalc,
          .pollClosed, .skip, .endRound, .consume 2]).map
         (fun s => (s.inflight.total, s.pending, s.processed, (promptRun div 22 s).pc))
     | .error _ => none) = some (0, [], 1, .done none) := by decide +kernel

end Cqos.C07
