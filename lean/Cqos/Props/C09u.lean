import Cqos.Lemmas.JoinStep
/-
  Property C09, unite clause at run level: "without a timeout the output is the unique greedy
  batching of the input — every slice is maximal (it reached JoinSize or the next input slice
  would not have fitted)".

  `uniteRef` is the batching written down as a plain fold over the input slices.  For the
  unite discipline without a timeout, after ANY run the emitted slices and the accumulation
  buffer are exactly `uniteRef` folded over the input slices consumed so far; in no-copy mode
  the effects become visible at the release, so the relation is stated per control point
  (`GreedyNC`, which in copy mode never leaves its `run`/`done` clauses: `Greedy`).  That each
  slice the fold emits is maximal is a fact about the fold alone (`uniteRef_maximal`).
-/
namespace Cqos.C09

/-- one input slice: flush the buffer first if the slice is oversized or would not fit; an
    oversized slice goes out alone; otherwise append and emit when JoinSize is reached -/
def uniteRef (size : Nat) (acc : List (List Nat) × List Nat) (xs : List Nat) : List (List Nat) × List Nat :=
  let flush := (decide (xs.length ≥ size) || decide (xs.length + acc.2.length > size)) && !acc.2.isEmpty
  let out1 := if flush then acc.1 ++ [acc.2] else acc.1
  let buf1 := if flush then [] else acc.2
  if xs.length ≥ size then (out1 ++ [xs], buf1)
  else if (buf1 ++ xs).length < size then (out1, buf1 ++ xs)
  else if buf1 ++ xs = [] then (out1, buf1 ++ xs)
  else (out1 ++ [buf1 ++ xs], [])

/-- what the fold has produced from the input slices consumed so far -/
def uniteFold (size : Nat) (inputs : List (List Nat)) : List (List Nat) × List Nat :=
  inputs.foldl (uniteRef size) ([], [])

/-- the relation between a reachable state and the fold over its consumed input -/
def Greedy (s : JSt) : Prop :=
  (s.pc = .run ∧ (s.out, s.buf) = uniteFold s.cfg.size s.consumed) ∨
  (s.pc = .done ∧ s.buf = [] ∧
    s.out = (uniteFold s.cfg.size s.consumed).1 ++
      (if (uniteFold s.cfg.size s.consumed).2 = [] then [] else [(uniteFold s.cfg.size s.consumed).2]))

/-- the relation between a reachable no-copy state and the fold over its consumed input -/
def GreedyNC (s : JSt) : Prop :=
  let F := uniteFold s.cfg.size s.consumed
  match s.pc with
  | .run => (s.out, s.buf) = F
  | .await none =>
    if s.closing then s.out = F.1 ++ [F.2] ∧ F.2 ≠ [] else s.out = F.1 ∧ F.2 = []
  | .await (some (_, xs)) =>
    s.out = F.1 ++ [F.2] ∧ s.buf = F.2 ∧ F.2 ≠ [] ∧ s.closing = false ∧
      ((decide (xs.length ≥ s.cfg.size) || decide (xs.length + F.2.length > s.cfg.size)) && !F.2.isEmpty) = true
  | .done => s.out = F.1 ++ (if F.2 = [] then [] else [F.2])

/-- the part of `uniteRef` after the (possible) flush -/
def contRef (size : Nat) (out1 : List (List Nat)) (buf1 xs : List Nat) : List (List Nat) × List Nat :=
  if xs.length ≥ size then (out1 ++ [xs], buf1)
  else if (buf1 ++ xs).length < size then (out1, buf1 ++ xs)
  else if buf1 ++ xs = [] then (out1, buf1 ++ xs)
  else (out1 ++ [buf1 ++ xs], [])

theorem uniteRef_fits {size : Nat} {acc : List (List Nat) × List Nat} {xs : List Nat}
    (h : FitsIn size acc.2 xs) : uniteRef size acc xs = contRef size acc.1 acc.2 xs := by
  simp [uniteRef, contRef, needPass_cond_eq_false.2 h]

theorem uniteRef_flush {size : Nat} {acc : List (List Nat) × List Nat} {xs : List Nat}
    (h : ¬ FitsIn size acc.2 xs) : uniteRef size acc xs = contRef size (acc.1 ++ [acc.2]) [] xs := by
  simp [uniteRef, contRef, needPass_cond_eq_true.2 (not_fitsIn.1 h)]

theorem uniteFold_snoc (size : Nat) (cs : List (List Nat)) (xs : List Nat) :
    uniteFold size (cs ++ [xs]) = uniteRef size (uniteFold size cs) xs := by
  simp [uniteFold, List.foldl_append]

/-- **Taking a slice is `contRef`**, in either mode.  In no-copy mode an emission leaves the
    discipline waiting, with the buffer still to be reset. -/
theorem jtake_ref (u : JSt) (id : Nat) (xs : List Nat) (t : Nat) (hfit : Fits u xs) (hrun : u.pc = .run) :
    (jcont (jlog u xs) id xs t).consumed = u.consumed ++ [xs] ∧
    (((jcont (jlog u xs) id xs t).pc = .run ∧
        ((jcont (jlog u xs) id xs t).out, (jcont (jlog u xs) id xs t).buf) = contRef u.cfg.size u.out u.buf xs) ∨
      (u.cfg.noCopy = true ∧ (jcont (jlog u xs) id xs t).pc = .await none ∧
        (jcont (jlog u xs) id xs t).out = (contRef u.cfg.size u.out u.buf xs).1 ∧
        (contRef u.cfg.size u.out u.buf xs).2 = [])) := by
  by_cases hov : u.cfg.size ≤ xs.length
  · have hb := hfit.1 hov
    cases hc : u.cfg.noCopy with
    | false =>
      rw [jtake_big_copy id t hov hc]
      exact ⟨rfl, Or.inl ⟨hrun, by simp [contRef, hov]⟩⟩
    | true =>
      rw [jtake_big_nocopy id t hov hc]
      exact ⟨rfl, Or.inr ⟨rfl, rfl, by simp [contRef, hov, hb]⟩⟩
  · have hov' : ¬ xs.length ≥ u.cfg.size := hov
    rw [jtake_small id t (Nat.not_le.1 hov), jappendPath_eq]
    split
    · rename_i hlt
      have hlt' : (u.buf ++ xs).length < u.cfg.size := by rw [List.length_append]; exact hlt
      refine ⟨rfl, Or.inl ⟨hrun, ?_⟩⟩
      rw [contRef, if_neg hov', if_pos hlt']; rfl
    · rename_i hlt
      have hlt' : ¬ (u.buf ++ xs).length < u.cfg.size := by rw [List.length_append]; exact hlt
      rcases jpass_cases (jappend (jlog u xs) xs t) t false none with ⟨hb, e⟩ | ⟨hb, _, e⟩ | ⟨hb, hc, e⟩ <;>
        rw [e]
      · have hb' : u.buf ++ xs = [] := hb
        refine ⟨rfl, Or.inl ⟨hrun, ?_⟩⟩
        rw [contRef, if_neg hov', if_neg hlt', if_pos hb']; rfl
      · have hb' : u.buf ++ xs ≠ [] := hb
        refine ⟨rfl, Or.inl ⟨hrun, ?_⟩⟩
        rw [contRef, if_neg hov', if_neg hlt', if_neg hb']; rfl
      · have hb' : u.buf ++ xs ≠ [] := hb
        refine ⟨rfl, Or.inr ⟨hc, rfl, ?_⟩⟩
        rw [contRef, if_neg hov', if_neg hlt', if_neg hb']; exact ⟨rfl, rfl⟩

theorem greedyNC_run {s : JSt} (h : s.pc = .run) :
    GreedyNC s ↔ (s.out, s.buf) = uniteFold s.cfg.size s.consumed := by simp [GreedyNC, h]

theorem greedyNC_done {s : JSt} (h : s.pc = .done) :
    GreedyNC s ↔ s.out = (uniteFold s.cfg.size s.consumed).1 ++
      (if (uniteFold s.cfg.size s.consumed).2 = [] then [] else [(uniteFold s.cfg.size s.consumed).2]) := by
  simp [GreedyNC, h]

/-- what holds in every run of unite without timeout and Stop, in copy and in no-copy mode.
    `open_` and `nc` are facts of `JInv` too; that is not at hand here, since the theorems do not
    assume `0 < JoinSize`. -/
structure GInvU (s : JSt) : Prop where
  greedy : GreedyNC s
  open_ : s.pc = .run → s.closing = false
  empty : s.pc = .done → s.buf = []
  nc : ∀ n, s.pc = .await n → s.cfg.noCopy = true

theorem greedyU_step (s s' : JSt) (a : JAct) (hk : s.cfg.kind = .unite) (ht : s.cfg.timeout = 0)
    (hv : s.cfg.v1 = false) (h : GInvU s) (hs : JStep s a s') : GInvU s' := by
  -- `xs` is taken into a running state `u` (`s` itself, or `s` after the emission of its buffer) on
  -- which the fold over `s.consumed ++ [xs]` is `contRef`
  have take : ∀ (u : JSt) (id : Nat) (xs : List Nat) (t : Nat), u.pc = .run → u.closing = false → Fits u xs →
      u.cfg = s.cfg → u.consumed = s.consumed →
      uniteFold s.cfg.size (s.consumed ++ [xs]) = contRef s.cfg.size u.out u.buf xs →
      GInvU (jcont (jlog u xs) id xs t) := by
    intro u id xs t hrun hcl hfit hcfg hcons hF
    obtain ⟨hcons', hr⟩ := jtake_ref u id xs t hfit hrun
    rw [hcfg] at hr
    have hf := jtake_frame u id xs t
    have hfold : uniteFold (jcont (jlog u xs) id xs t).cfg.size (jcont (jlog u xs) id xs t).consumed =
        contRef s.cfg.size u.out u.buf xs := by rw [hf.cfg, hcons', hcfg, hcons, hF]
    rcases hr with ⟨hp, he⟩ | ⟨hc, hp, ho, hb⟩
    · exact ⟨(greedyNC_run hp).2 (he.trans hfold.symm), fun _ => hf.closing.trans hcl,
        fun hd => (by rw [hp] at hd; cases hd), fun n hn => (by rw [hp] at hn; cases hn)⟩
    · refine ⟨?_, fun hr => (by rw [hp] at hr; cases hr), fun hd => (by rw [hp] at hd; cases hd),
        fun _ _ => (hf.cfg.trans hcfg) ▸ hc⟩
      simp only [GreedyNC, hp, hf.closing.trans hcl, hfold]
      exact ⟨ho, hb⟩
  cases hs with
  | skip _ h1 | stop h1 | stopRun _ h1 | stopAwait _ h1 | stopFlush _ h1 => rw [hv] at h1; cases h1
  | join _ h1 => rw [hk] at h1; cases h1
  | idle _ h0 | tick _ h0 => exact absurd ht h0
  | @take id xs t hpc _ hf =>
    have hg := (greedyNC_run hpc).1 h.greedy
    refine take s id xs t hpc (h.open_ hpc) hf rfl rfl ?_
    rw [uniteFold_snoc, ← hg]
    exact uniteRef_fits hf
  | @flush id xs t hpc _ hf hb hc =>
    have hg := (greedyNC_run hpc).1 h.greedy
    rw [jpass_copy_eq s t false none hb hc]
    refine take _ id xs t hpc (h.open_ hpc) (Fits.of_nil rfl xs) rfl rfl ?_
    rw [uniteFold_snoc, ← hg]
    exact uniteRef_flush hf
  | @hold id xs t hpc _ hf hb hc =>
    have hg := (greedyNC_run hpc).1 h.greedy
    rw [jpass_nocopy_eq s t false _ hb hc]
    refine ⟨?_, fun hr => (by cases hr), fun hd => (by cases hd), fun _ _ => hc⟩
    simp only [GreedyNC, ← hg]
    exact ⟨trivial, trivial, hb, h.open_ hpc, needPass_of_not_fits hf⟩
  | @closeHold t hpc hb hc =>
    have hg := (greedyNC_run hpc).1 h.greedy
    rw [jpass_nocopy_eq s t false none hb hc]
    refine ⟨?_, fun hr => (by cases hr), fun hd => (by cases hd), fun _ _ => hc⟩
    simp only [GreedyNC, ← hg]
    exact ⟨trivial, hb⟩
  | @closeDone t hpc hnh =>
    have hg := (greedyNC_run hpc).1 h.greedy
    have hp : (jpass s t false none).pc = .run := by rw [jpass_pc, if_neg hnh, hpc]
    refine ⟨(greedyNC_done rfl).2 ?_, fun hr => (by cases hr), fun _ => jpass_buf_of_run hp,
      fun _ hn => (by cases hn)⟩
    show (jpass s t false none).out = _
    rw [jpass_out, (jpass_frame s t false none).cfg, jpass_consumed, ← hg]
    by_cases hb' : s.buf = [] <;> simp [hb']
  | @release t hpc =>
    have hg := h.greedy
    simp only [GreedyNC, hpc] at hg
    have hna := jrelease_pc_ne_await s t
    cases hcl : s.closing with
    | true =>
      simp only [hcl, if_true] at hg
      have hp := jrelease_pc_done t hcl
      refine ⟨(greedyNC_done hp).2 ?_, fun hr => (by rw [hp] at hr; cases hr), fun _ => rfl,
        fun n hn => absurd hn (hna n)⟩
      simp [jrelease, hg.1, hg.2]
    | false =>
      simp only [hcl] at hg
      have hp := jrelease_pc_run t hcl
      exact ⟨(greedyNC_run hp).2 (Prod.ext hg.1 hg.2.symm), fun _ => hcl, fun _ => rfl,
        fun n hn => absurd hn (hna n)⟩
  | @resume id xs t hpc =>
    have hg := h.greedy
    simp only [GreedyNC, hpc] at hg
    obtain ⟨g1, g2, g3, g4, g5⟩ := hg
    refine take (jrelease s t) id xs t (jrelease_pc_run t g4) g4 (Fits.of_nil rfl xs) rfl rfl ?_
    rw [uniteFold_snoc, uniteRef_flush (not_fitsIn.2 (needPass_cond_eq_true.1 g5)), ← g1]
    rfl

/-- **C09 (unite, run level, copy and no-copy mode): the output is the greedy batching of the
    input**, seen at whatever control point the discipline is. -/
theorem c09_unite_greedy_any (cfg : JCfg) (t0 : Nat) (hk : cfg.kind = .unite) (ht : cfg.timeout = 0)
    (hv : cfg.v1 = false) (acts : List JAct) (s : JSt) (hr : jrun (jinit cfg t0) acts = some s) :
    GInvU s ∧ s.cfg = cfg :=
  jrun_induction (I := fun u => GInvU u ∧ u.cfg = cfg)
    (fun hu hs => ⟨greedyU_step _ _ _ (hu.2 ▸ hk) (hu.2 ▸ ht) (hu.2 ▸ hv) hu.1 hs, hs.cfg_eq.trans hu.2⟩)
    ⟨⟨by simp [GreedyNC, jinit, uniteFold], fun _ => rfl, fun h => (by cases h), fun _ h => (by cases h)⟩, rfl⟩
    hr

/-- **C09 (unite, run level: the output is the greedy batching of the input).** -/
theorem c09_unite_greedy (cfg : JCfg) (t0 : Nat) (hk : cfg.kind = .unite) (hc : cfg.noCopy = false)
    (ht : cfg.timeout = 0) (hv : cfg.v1 = false) (acts : List JAct) (s : JSt)
    (hr : jrun (jinit cfg t0) acts = some s) : Greedy s ∧ s.cfg = cfg := by
  obtain ⟨h, hcfg⟩ := c09_unite_greedy_any cfg t0 hk ht hv acts s hr
  refine ⟨?_, hcfg⟩
  cases hpc : s.pc with
  | run => exact Or.inl ⟨hpc, (greedyNC_run hpc).1 h.greedy⟩
  | done => exact Or.inr ⟨hpc, h.empty hpc, (greedyNC_done hpc).1 h.greedy⟩
  | await n => have := h.nc n hpc; rw [hcfg, hc] at this; cases this

/-- **C09 (unite, no-copy mode, run level).** -/
theorem c09_unite_greedy_nocopy (cfg : JCfg) (t0 : Nat) (hk : cfg.kind = .unite) (hc : cfg.noCopy = true)
    (ht : cfg.timeout = 0) (hv : cfg.v1 = false) (acts : List JAct) (s : JSt)
    (hr : jrun (jinit cfg t0) acts = some s) : GreedyNC s ∧ s.cfg = cfg :=
  have h := c09_unite_greedy_any cfg t0 hk ht hv acts s hr
  ⟨h.1.greedy, h.2⟩

theorem contRef_new {size : Nat} {out1 : List (List Nat)} {buf1 xs e : List Nat}
    (he : e ∈ (contRef size out1 buf1 xs).1) (hnew : e ∉ out1) : e.length ≥ size := by
  unfold contRef at he
  split at he
  · rename_i hov
    simp only [List.mem_append, List.mem_singleton] at he
    rcases he with he | rfl
    · exact absurd he hnew
    · exact hov
  · split at he
    · exact absurd he hnew
    · rename_i hlt
      split at he
      · exact absurd he hnew
      · simp only [List.mem_append, List.mem_singleton] at he
        rcases he with he | rfl
        · exact absurd he hnew
        · exact Nat.not_lt.1 hlt

/-- **every slice the fold emits is maximal**: a newly emitted slice has reached JoinSize, or
    it is the buffer and the input slice that follows would not have fitted -/
theorem uniteRef_maximal (size : Nat) (out : List (List Nat)) (buf xs : List Nat) (e : List Nat)
    (he : e ∈ (uniteRef size (out, buf) xs).1) (hnew : e ∉ out) :
    e.length ≥ size ∨ (e = buf ∧ buf.length + xs.length > size) := by
  by_cases hfit : FitsIn size buf xs
  · rw [uniteRef_fits (acc := (out, buf)) hfit] at he
    exact Or.inl (contRef_new he hnew)
  · rw [uniteRef_flush (acc := (out, buf)) hfit] at he
    by_cases hin : e ∈ out ++ [buf]
    · simp only [List.mem_append, List.mem_singleton] at hin
      rcases hin with hin | rfl
      · exact absurd hin hnew
      · -- the flushed buffer: it is not empty, and `xs` is oversize or does not fit
        obtain ⟨hb, hov⟩ := not_fitsIn.1 hfit
        have := List.length_pos_iff.2 hb
        by_cases hbl : e.length ≥ size
        · exact Or.inl hbl
        · exact Or.inr ⟨rfl, by omega⟩
    · exact Or.inl (contRef_new he hin)

/-- non-vacuity: JoinSize 4, slices of 2, 1, 3 (does not fit), 5 (oversized), 1 -/
example : uniteFold 4 [[1, 2], [3], [4, 5, 6], [7, 8, 9, 10, 11], [12]] =
    ([[1, 2, 3], [4, 5, 6], [7, 8, 9, 10, 11]], [12]) := by decide +kernel

end Cqos.C09
