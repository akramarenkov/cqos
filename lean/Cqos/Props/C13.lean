import Cqos.Rate
/-
  Property C13 — Rate conversion returns a valid, equivalent, minimal rate or an error.

  `LRate.recalculate` is the model of `Rate.Recalculate` (tied to the Go code by the
  correspondence check of C13: exhaustive small scope, boundary family `I = Q·min + r`,
  64-bit edges, random).  All theorems quantify over unbounded `Int`/`Nat`, hence in
  particular over the full int64/uint64 ranges; the only range test the Go code performs
  (`IsUint64`) is part of the model.

  `recalculate_eq` and `recalculate_cases` describe `recalculate` completely, in natural numbers;
  every property below is read off them.
-/
namespace Cqos.C13
open LRate

theorem isValid_none_iff (r : LRate) : r.isValid = none ↔ 0 < r.interval ∧ 0 < r.quantity := by
  unfold isValid
  grind

theorem isValid_mk {I Q : Nat} (hI : 0 < I) (hQ : 0 < Q) : (⟨I, Q⟩ : LRate).isValid = none :=
  (isValid_none_iff _).2 ⟨Int.natCast_pos.2 hI, hQ⟩

/-- `Recalculate` on a valid rate `I/Q` and a minimum `M ≥ 0`, in natural numbers and in one piece:
    `⌊I/Q⌋` is the interval of the one-element rate, `⌊Q·M/I⌋` the quantity at interval `M`. -/
theorem recalculate_eq (I Q M : Nat) (hI : 0 < I) (hQ : 0 < Q) :
    recalculate ⟨I, Q⟩ M =
      if 0 < I / Q ∧ M ≤ I / Q then .ok ⟨(I / Q : Nat), 1⟩
      else if M = 0 then .error .convertedIntervalZero
      else if Q * M / I < 2 ^ 64 then .ok ⟨M, Q * M / I⟩
      else .error .quantityUnrepresentable := by
  unfold recalculate recalcQuantity
  rw [isValid_mk hI hQ]
  simp only [Int.toNat_natCast, if_neg (Int.not_lt.2 (Int.natCast_nonneg M))]
  generalize I / Q = k
  -- the first test of the Go code, over `Nat`
  have e : ((k : Int) > M ∨ ((k : Int) ≠ 0 ∧ (k : Int) = M)) ↔ (0 < k ∧ M ≤ k) := by omega
  by_cases h : 0 < k ∧ M ≤ k
  · rw [if_pos h, if_pos (e.2 h)]
  · rw [if_neg h, if_neg (mt e.1 h)]
    by_cases h0 : M = 0
    · rw [if_pos h0, if_pos (Int.natCast_eq_zero.2 h0)]
    · rw [if_neg h0, if_neg (mt Int.natCast_eq_zero.1 h0)]
      by_cases hq : Q * M / I < 2 ^ 64 <;> simp only [hq, ↓reduceIte]

theorem recalculate_cases (r : LRate) (m : Int) :
    (∃ I Q M : Nat, 0 < I ∧ 0 < Q ∧ r = ⟨I, Q⟩ ∧ m = M) ∨
    ((r.isValid ≠ none ∨ m < 0) ∧ ∃ e, recalculate r m = .error e) := by
  cases hv : r.isValid with
  | some e => right; exact ⟨by simp, e, by simp [recalculate, hv]⟩
  | none =>
    obtain ⟨hI, hQ⟩ := (isValid_none_iff r).1 hv
    by_cases hm : m < 0
    · right; exact ⟨Or.inr hm, .minimumNegative, by simp [recalculate, hv, hm]⟩
    · left; refine ⟨r.interval.toNat, r.quantity, m.toNat, by omega, hQ, ?_, by omega⟩
      cases r; simp only [LRate.mk.injEq, and_true]; simp only at hI; omega

theorem ok_cases (r : LRate) (m : Int) (r' : LRate) (h : recalculate r m = .ok r') :
    ∃ I Q M : Nat, 0 < I ∧ 0 < Q ∧ r = ⟨I, Q⟩ ∧ m = M ∧
      ((0 < I / Q ∧ M ≤ I / Q ∧ r' = ⟨(I / Q : Nat), 1⟩) ∨
       (I / Q < M ∧ Q * M / I < 2 ^ 64 ∧ r' = ⟨M, Q * M / I⟩)) := by
  rcases recalculate_cases r m with ⟨I, Q, M, hI, hQ, rfl, rfl⟩ | ⟨_, e, he⟩
  · refine ⟨I, Q, M, hI, hQ, rfl, rfl, ?_⟩
    rw [recalculate_eq _ _ _ hI hQ] at h
    split at h
    · rename_i hb; cases h; exact Or.inl ⟨hb.1, hb.2, rfl⟩
    · split at h
      · cases h
      · split at h
        · rename_i hq
          cases h
          exact Or.inr ⟨by omega, hq, rfl⟩
        · cases h
  · rw [he] at h; cases h

theorem quantity_pos {I Q M : Nat} (hI : 0 < I) (hQ : 0 < Q) (h : I / Q < M) : 0 < Q * M / I :=
  Nat.div_pos (Nat.mul_comm M Q ▸ Nat.le_of_lt (Nat.lt_mul_of_div_lt h hQ)) hI

/-- **C13 (validity, minimum, minimality).**  A returned rate is valid, its interval is
    at least the minimum, and its quantity is 1 unless its interval equals the minimum. -/
theorem c13_valid (r : LRate) (m : Int) (r' : LRate) (h : recalculate r m = .ok r') :
    r'.isValid = none ∧ m ≤ r'.interval ∧ (r'.quantity = 1 ∨ r'.interval = m) := by
  obtain ⟨I, Q, M, hI, hQ, rfl, rfl, ⟨hk, hle, rfl⟩ | ⟨hlt, _, rfl⟩⟩ := ok_cases r m r' h
  · exact ⟨isValid_mk hk Nat.one_pos, Int.ofNat_le.2 hle, Or.inl rfl⟩
  · have hq := quantity_pos hI hQ hlt
    have hM : 0 < M := Nat.zero_lt_of_lt hlt
    exact ⟨isValid_mk hM hq, Int.le_refl _, Or.inr rfl⟩

/-- **C13 (equivalence within rounding).**  The new speed `Q'/I'` is faster than the
    original `Q/I` by less than one nanosecond of its interval
    (`Q'/(I'+1) < Q/I`) and slower by less than one element per interval
    (`(Q'+1)/I' > Q/I`); stated after cross-multiplication, over `Int`. -/
theorem c13_equiv (r : LRate) (m : Int) (r' : LRate) (h : recalculate r m = .ok r') :
    (r'.quantity : Int) * r.interval < (r.quantity : Int) * (r'.interval + 1) ∧
    (r.quantity : Int) * r'.interval < ((r'.quantity : Int) + 1) * r.interval := by
  obtain ⟨I, Q, M, hI, hQ, rfl, rfl, ⟨hk, hle, rfl⟩ | ⟨hlt, _, rfl⟩⟩ := ok_cases r m r' h
  · -- Q' = 1, I' = ⌊I/Q⌋:   I < Q·(I'+1)   and   Q·I' ≤ I < 2·I
    have h1 := Nat.lt_mul_div_succ I hQ
    have h2 := Nat.mul_div_le I Q
    simp only
    norm_cast
    omega
  · -- I' = M, Q' = ⌊Q·M/I⌋:   Q'·I ≤ Q·M < Q·(M+1)   and   Q·M < (Q'+1)·I
    have h1 := Nat.div_mul_le_self (Q * M) I
    have h2 := Nat.lt_mul_div_succ (Q * M) hI
    simp only
    norm_cast
    rw [Nat.mul_add, Nat.mul_comm (_ + 1) I]
    omega

/-- **C13 (stability).**  A rate returned by `Recalculate` is a fixed point of `Recalculate`
    with the same minimum: converting an already converted rate changes nothing (so `Optimize`
    after `Optimize`, or `Flatten` after `Flatten`, returns its argument). -/
theorem c13_idempotent (r : LRate) (m : Int) (r' : LRate) (h : recalculate r m = .ok r') :
    recalculate r' m = .ok r' := by
  obtain ⟨I, Q, M, hI, hQ, rfl, rfl, ⟨hk, hle, rfl⟩ | ⟨hlt, hq, rfl⟩⟩ := ok_cases r m r' h
  · rw [recalculate_eq _ _ _ hk Nat.one_pos, Nat.div_one, if_pos ⟨hk, hle⟩]
  · generalize hq' : Q * M / I = q at hq
    have hq0 : 0 < q := hq' ▸ quantity_pos hI hQ hlt
    have hM : 0 < M := Nat.zero_lt_of_lt hlt
    rw [recalculate_eq _ _ _ hM hq0]
    by_cases hq1 : q = 1
    · subst hq1; rw [Nat.div_one, if_pos ⟨hM, Nat.le_refl _⟩]
    · have := Nat.div_lt_self hM (by omega : 1 < q)
      rw [if_neg (by omega), if_neg (by omega), Nat.mul_div_cancel q hM, if_pos hq]

/-- **C13 (errors only for the listed reasons — and exactly then).** -/
theorem c13_error_iff (r : LRate) (m : Int) :
    (∃ e, recalculate r m = .error e) ↔
      (r.isValid ≠ none ∨ m < 0 ∨
       (r.isValid = none ∧ m = 0 ∧ r.interval.toNat / r.quantity = 0) ∨
       (r.isValid = none ∧ 0 < m ∧ ((r.interval.toNat / r.quantity : Nat) : Int) ≤ m ∧
          ¬ (0 < r.interval.toNat / r.quantity ∧ ((r.interval.toNat / r.quantity : Nat) : Int) = m) ∧
          2 ^ 64 ≤ r.quantity * m.toNat / r.interval.toNat)) := by
  rcases recalculate_cases r m with ⟨I, Q, M, hI, hQ, rfl, rfl⟩ | ⟨hbad, he⟩
  · rw [recalculate_eq _ _ _ hI hQ]
    simp only [isValid_mk hI hQ, ne_eq, not_true_eq_false, false_or, true_and, Int.toNat_natCast]
    generalize I / Q = k
    generalize Q * M / I = q
    -- the listed reasons say: neither the one-element branch nor a representable quantity
    have hR : ((M : Int) < 0 ∨ ((M : Int) = 0 ∧ k = 0) ∨
        (0 < (M : Int) ∧ (k : Int) ≤ M ∧ ¬ (0 < k ∧ (k : Int) = M) ∧ 2 ^ 64 ≤ q)) ↔
        (¬ (0 < k ∧ M ≤ k) ∧ (M = 0 ∨ ¬ q < 2 ^ 64)) := by omega
    rw [hR]
    by_cases h1 : 0 < k ∧ M ≤ k
    · rw [if_pos h1]; exact ⟨(fun ⟨_, h⟩ => nomatch h), fun h => absurd h1 h.1⟩
    · rw [if_neg h1]
      by_cases h0 : M = 0
      · rw [if_pos h0]; exact ⟨fun _ => ⟨h1, Or.inl h0⟩, fun _ => ⟨_, rfl⟩⟩
      · rw [if_neg h0]
        by_cases hq : q < 2 ^ 64
        · rw [if_pos hq]; exact ⟨(fun ⟨_, h⟩ => nomatch h), fun h => (h.2.elim h0 (absurd hq)).elim⟩
        · rw [if_neg hq]; exact ⟨fun _ => ⟨h1, Or.inr hq⟩, fun _ => ⟨_, rfl⟩⟩
  · exact ⟨fun _ => by rcases hbad with h | h; exact Or.inl h; exact Or.inr (Or.inl h), fun _ => he⟩

/-- **C13 (Flatten).**  A successful `Flatten` always returns a one-element rate: the
    "Quantity 1 unless Interval equals the minimum" clause with minimum 0, where a valid result
    cannot have Interval 0. -/
theorem c13_flatten_one (r r' : LRate) (h : flatten r = .ok r') :
    r'.quantity = 1 ∧ 0 < r'.interval := by
  obtain ⟨hv, _, hq⟩ := c13_valid r 0 r' h
  have hpos := ((isValid_none_iff _).1 hv).1
  exact ⟨hq.resolve_right (Int.ne_of_gt hpos), hpos⟩

/-- `Optimize` and `Flatten` are `Recalculate` at the fixed minimums, so the theorems about
    `recalculate` apply to them verbatim. -/
theorem c13_optimize_flatten (r : LRate) :
    optimize r = recalculate r 10000000 ∧ flatten r = recalculate r 0 := ⟨rfl, rfl⟩

/-- Defect D1, kept as a decided fact about the UNREPAIRED function: it returned a rate
    with quantity 0 and no error. -/
theorem c13_unfixed_counterexample :
    recalculateUnfixed ⟨20000001, 2⟩ 10000000 = .ok ⟨10000000, 0⟩ := by rfl

/-- the repaired function on the same input -/
example : recalculate ⟨20000001, 2⟩ 10000000 = .ok ⟨10000000, 1⟩ := by rfl

/-! Non-vacuity: both branches and the error cases are inhabited. -/
example : recalculate ⟨1000000000, 100⟩ 10000000 = .ok ⟨10000000, 1⟩ := by rfl
example : recalculate ⟨1000000000, 1000⟩ 10000000 = .ok ⟨10000000, 10⟩ := by rfl
example : recalculate ⟨10000000, 10⟩ 10000000 = .ok ⟨10000000, 10⟩ := by rfl  -- fixed point (c13_idempotent)
example : recalculate ⟨3, 7⟩ 0 = .error .convertedIntervalZero := by rfl
example : recalculate ⟨1, 2 ^ 64 - 1⟩ 2 = .error .quantityUnrepresentable := by rfl

end Cqos.C13
