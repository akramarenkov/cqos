import Cqos.Props.C06
import Cqos.Props.C07
import Cqos.Lemmas.StepEffect
/-
  Property C06, deadlock freedom: in every reachable state of a v2 discipline that has not
  terminated, something can happen — the discipline itself has an enabled step, or it waits
  for a release while a handler holds an item (so "handlers eventually release" unblocks it).
-/
namespace Cqos.C06

theorem poll_enabled (s : St) (ph p : Nat) (rest : List Nat) (ht : C07.TInv s) :
    ∃ a, (a = .skip ∨ a = .pollItem ∨ a = .pollClosed ∨ a = .pollEmpty) ∧ (stepPoll s ph p rest a).isSome = true := by
  cases hin : alGet s.inputs p with
  | none => exact ⟨.skip, Or.inl rfl, by simp [stepPoll, hin]⟩
  | some inp =>
    by_cases hsk : inp.drained ∨ s.tactic.get p = 0
    · exact ⟨.skip, Or.inl rfl, by simp [stepPoll, hin, hsk]⟩
    · have hsome := ht.chansOK p inp hin
      cases hch : alGet s.chans inp.chan with
      | none => rw [hch] at hsome; cases hsome
      | some ch =>
        cases hq : ch.queue with
        | cons x q => exact ⟨.pollItem, Or.inr (Or.inl rfl), by simp [stepPoll, hin, hsk, hch, hq]⟩
        | nil =>
          by_cases hcl : ch.closed = true
          · exact ⟨.pollClosed, Or.inr (Or.inr (Or.inl rfl)), by simp [stepPoll, hin, hsk, hch, hq, hcl]⟩
          · exact ⟨.pollEmpty, Or.inr (Or.inr (Or.inr rfl)), by simp [stepPoll, hin, hsk, hch, hq, hcl]⟩

/-- **C06 (no deadlock).** After any run of a v2 discipline whose shares add up to `H`: unless it
    has terminated, either one of the discipline's own actions is enabled, or it is waiting
    for a release and at least one delivered item is still held by a handler. -/
theorem c06_no_deadlock (div : DivFn) (keys : List (Nat × Bool)) (H : Nat) (hH : 0 < H)
    (hnd : (keys.map (·.1)).Nodup) (s0 s : St) (acts : List Act) (h0 : initV2 div keys H = .ok s0)
    (hsum : sumOver s0.prios s0.strategic = H) (hr : run div s0 acts = some s) (hnd' : ∀ e, s.pc ≠ .done e) :
    (∃ a, isOwn a = true ∧ (step div s a).isSome = true) ∨
    ((s.pc = .waitFb ∨ ∃ e, s.pc = .drain e) ∧ 0 < s.inflight.total) := by
  obtain ⟨ht, hinv, _, _⟩ := C07.reach_initV2 hnd h0 hr
  have htot := hinv.core.tot
  have own : ∀ {pc a u}, s.pc = pc → Own div s pc a u → isOwn a = true →
      ∃ a, isOwn a = true ∧ (step div s a).isSome = true :=
    fun {_ a _} hpc ho ha => ⟨a, ha, by rw [(Step.own hpc ho).step_eq]; rfl⟩
  have read : ∀ {p ps}, s.pending = p :: ps → p ∈ s.pending ∧ s.actual.get p ≠ 0 := fun hp =>
    have hm := hp ▸ List.mem_cons_self ..
    ⟨hm, (core_consume hinv.core _ hm).1⟩
  cases hpc : s.pc with
  | done e => exact absurd hpc (hnd' e)
  | fault => exact absurd hpc hinv.nofault
  | top => exact absurd hpc ((C07.v2_static_run div acts s0 s (initV2_v1 h0) hr).2.2.2 (by rw [initV2_pc h0]; simp))
  | «calc» => exact .inl (own hpc .calc rfl)
  | limited k => exact .inl (own hpc .limitedStop rfl)
  | prio ph rest =>
    cases rest with
    | nil =>
      by_cases h1 : ph = 1
      · subst h1; exact .inl (own hpc .recalc rfl)
      · by_cases hc : s.processed = 0 ∧ (¬ s.cfg.v1 ∨ s.graceful) ∧ allDrained s.inputs
        · exact .inl (own hpc (.goto (.endDrain h1 hc.1 hc.2.1 hc.2.2)) rfl)
        · exact .inl (own hpc (.goto (.endLimited h1 hc)) rfl)
    | cons p rest =>
      rcases poll_next div ph rest (ht.chansOK p) with ho | ⟨_, _, _, ⟨_, _, ho⟩ | ho | ⟨_, _, _, ho⟩⟩ <;>
        exact .inl (own hpc ho rfl)
  | waitFb =>
    cases hp : s.pending with
    | cons p ps => exact .inl (own hpc (.consume (read hp).1 (read hp).2 .waitFb) rfl)
    | nil =>
      have hw := c06_never_waits_idle div keys H hH hnd s0 s acts h0 hsum hr hpc
      rw [hp] at hw
      exact .inr ⟨.inl rfl, by simpa using hw⟩
  | drain e =>
    cases hz : s.actual.allZero with
    | true => exact .inl (own hpc (.goto (.exit hz)) rfl)
    | false =>
      cases hp : s.pending with
      | cons p ps => exact .inl (own hpc (.consume (read hp).1 (read hp).2 (.drain hz)) rfl)
      | nil =>
        have hpos : 0 < s.actual.total :=
          Nat.pos_of_ne_zero fun h => by rw [(Dist.allZero_iff_total _).2 h] at hz; cases hz
        rw [hp] at htot
        rw [htot] at hpos
        exact .inr ⟨.inr ⟨e, rfl⟩, hpos⟩

end Cqos.C06
