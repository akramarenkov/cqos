import Cqos.Props.C03
/-
  Property C11 — unite: input slices are never split across output slices.

  The grouping invariant: at every moment the emitted slices are the concatenations of
  consecutive groups of WHOLE accepted input slices, and the live buffer is the
  concatenation of the whole slices that follow.  (It holds for join as well, whose input
  "slices" are single elements.)  Proved for every action list.
-/
namespace Cqos.C11
open Cqos.C03

/-- `pending` = the input slice already logged as consumed but not yet buffered/forwarded -/
def GInvP (s : JSt) (pending : Option (List Nat)) : Prop :=
  ∃ gs : List (List (List Nat)), ∃ bs : List (List Nat),
    s.out = gs.map List.flatten ∧ live s = bs.flatten ∧ gs.flatten ++ bs ++ pending.toList = s.consumed

abbrev GInv (s : JSt) : Prop := GInvP s none

theorem g_congr {s u : JSt} {p : Option (List Nat)} (h : GInvP s p) (ho : u.out = s.out) (hl : live u = live s)
    (hc : u.consumed = s.consumed) : GInvP u p := by
  obtain ⟨gs, bs, h1, h2, h3⟩ := h
  exact ⟨gs, bs, by rw [ho, h1], by rw [hl, h2], by rw [hc, h3]⟩

theorem g_jlog {s : JSt} (h : GInv s) (xs : List Nat) : GInvP (jlog s xs) (some xs) := by
  obtain ⟨gs, bs, h1, h2, h3⟩ := h
  refine ⟨gs, bs, h1, h2, ?_⟩
  simp only [Option.toList, List.append_nil] at h3
  simp [jlog, ← h3]

/-- `pass()`: the whole live buffer becomes a group -/
theorem g_jpass {s : JSt} {p : Option (List Nat)} (h : GInvP s p) (hrun : s.pc = .run)
    (t : Nat) (tk : Bool) (nx : Option (Nat × List Nat)) : GInvP (jpass s t tk nx) p := by
  by_cases hb : s.buf = []
  · refine g_congr h (by rw [jpass_out, if_pos hb]) ?_ (jpass_consumed ..)
    rw [live_jpass hrun]
    simp [live, hrun, hb]
  · obtain ⟨gs, bs, h1, h2, h3⟩ := h
    simp only [live, hrun] at h2
    exact ⟨gs ++ [bs], [], by rw [jpass_out, if_neg hb, h1, h2]; simp, by rw [live_jpass hrun]; simp,
      by rw [jpass_consumed, ← h3]; simp⟩

/-- the pending slice joins the live group, which is closed when JoinSize is reached -/
theorem g_appendPath {s : JSt} {xs : List Nat} (h : GInvP s (some xs)) (hrun : s.pc = .run) (t : Nat) :
    GInv (jappendPath s xs t) := by
  have happ : GInv (jappend s xs t) := by
    obtain ⟨gs, bs, h1, h2, h3⟩ := h
    simp only [live, hrun] at h2
    refine ⟨gs, bs ++ [xs], h1, by simp [jappend, live, hrun, h2], ?_⟩
    simp only [Option.toList] at h3
    simp [jappend, ← h3]
  rw [jappendPath_eq]
  split
  · exact happ
  · exact g_jpass happ hrun t false none

/-- unite takes `xs`: an oversize slice forms a group of its own (together with the empty
    slices waiting in front of it, which contribute nothing) -/
theorem g_cont {s : JSt} {xs : List Nat} (h : GInv s) (hrun : s.pc = .run) (hfit : Fits s xs) (id t : Nat) :
    GInv (jcont (jlog s xs) id xs t) := by
  by_cases hbig : s.cfg.size ≤ xs.length
  · obtain ⟨gs, bs, h1, h2, h3⟩ := h
    simp only [live, hrun, hfit.1 hbig] at h2
    simp only [Option.toList, List.append_nil] at h3
    have key : ∀ u : JSt, u.out = s.out ++ [xs] → u.consumed = s.consumed ++ [xs] → live u = [] → GInv u := by
      intro u ho hc hl
      refine ⟨gs ++ [bs ++ [xs]], [], ?_, by rw [hl]; simp, by rw [hc, ← h3]; simp⟩
      rw [ho, h1]; simp [List.flatten_append, ← h2]
    cases hc : s.cfg.noCopy with
    | true =>
      rw [jtake_big_nocopy id t hbig hc]
      exact key _ rfl rfl (by simp [live])
    | false =>
      rw [jtake_big_copy id t hbig hc]
      exact key _ rfl rfl (by simp [live, hrun, hfit.1 hbig])
  · rw [jtake_small id t (Nat.not_le.1 hbig)]
    exact g_appendPath (g_jlog h xs) hrun t

/-- **One step keeps `GInv`**: output slices and live buffer are concatenations of whole input
    slices. -/
theorem g_step (s s' : JSt) (a : JAct) (hj : JInv s) (h : GInv s) (hs : JStep s a s') : GInv s' := by
  cases hs with
  | skip | idle => exact h
  | join hpc => exact g_appendPath (g_jlog h _) hpc _
  | hold hpc | tick hpc => exact g_jpass h hpc _ _ _
  | @flush _ xs t hpc _ _ hb hc =>
    have h1 := g_jpass h hpc t false none
    rw [jpass_copy_eq s t false none hb hc] at h1 ⊢
    exact g_cont h1 hpc (Fits.of_nil rfl xs) _ _
  | take hpc _ hf => exact g_cont h hpc hf _ _
  | @closeHold t hpc hb hc =>
    refine g_congr (g_jpass h hpc t false none) rfl ?_ rfl
    rw [jpass_nocopy_eq s t false none hb hc]; rfl
  | @closeDone t hpc | @stopFlush t hpc =>
    exact g_congr (g_jpass h hpc t false none) rfl (by rw [live_jpass hpc]; simp [live]) rfl
  | @release t hpc => exact g_congr h rfl (by rw [live_jrelease]; simp [live, hpc]) rfl
  | @resume _ xs t hpc =>
    have h1 : GInv (jrelease s t) := g_congr h rfl (by rw [live_jrelease]; simp [live, hpc]) rfl
    exact g_cont h1 (jrelease_pc_run t (closing_false_of_some hj hpc)) (Fits.of_nil rfl xs) _ _
  | stop => exact g_congr h rfl rfl rfl
  | stopRun hpc =>
    refine g_congr h rfl ?_ rfl
    simp [live, hpc, closing_false_of_run hj hpc, unreleased_false hj hpc nofun]
  | stopAwait hpc => exact g_congr h rfl (by simp [live, hpc]) rfl

theorem g_run (acts : List JAct) (s s' : JSt) (hj : JInv s) (h : GInv s) (hr : jrun s acts = some s') : GInv s' :=
  (jrun_induction (I := fun u => JInv u ∧ GInv u)
    (fun hu hs => ⟨jstep_inv _ _ _ hu.1 hs, g_step _ _ _ hu.1 hu.2 hs⟩) ⟨hj, h⟩ hr).2

/-- **C11 (at any moment).** the grouping holds during the run, the live buffer being
    the concatenation of the whole slices not yet emitted. -/
theorem c11_always (cfg : JCfg) (t0 : Nat) (hsz : 0 < cfg.size) (acts : List JAct) (s : JSt)
    (hr : jrun (jinit cfg t0) acts = some s) : GInv s :=
  g_run acts _ s (jinit_inv cfg t0 hsz) ⟨[], [], by simp [jinit], by simp [jinit, live], by simp [jinit]⟩ hr

/-- **C11 (whole slices).**  For every run that ends after the input was closed there is a
    partition of the accepted input slices into consecutive groups such that the output
    slices are exactly the concatenations of the groups (trailing slices that belong to no
    group are empty): every non-empty input slice lies contiguously and wholly inside exactly
    one output slice, and empty input slices contribute nothing. -/
theorem c11_whole (cfg : JCfg) (t0 : Nat) (hsz : 0 < cfg.size) (acts : List JAct) (s : JSt)
    (hr : jrun (jinit cfg t0) acts = some s) (hdone : s.pc = .done) (hclosed : s.closing = true) :
    ∃ gs : List (List (List Nat)), ∃ bs : List (List Nat),
      s.out = gs.map List.flatten ∧ gs.flatten ++ bs = s.consumed ∧ ∀ b ∈ bs, b = [] := by
  obtain ⟨gs, bs, h1, h2, h3⟩ := c11_always cfg t0 hsz acts s hr
  refine ⟨gs, bs, h1, by simpa using h3, ?_⟩
  simp only [live, hdone, hclosed, true_or, if_true] at h2
  intro b hb
  have : bs.flatten = [] := h2.symm
  rw [List.flatten_eq_nil_iff] at this
  exact this b hb

/-- **C11 (oversize).** In copy mode an input slice of at least JoinSize elements is
    delivered as an output slice of its own, after everything accumulated before it. -/
theorem c11_oversize (s : JSt) (id : Nat) (xs : List Nat) (t : Nat)
    (hk : s.cfg.kind = .unite) (hc : s.cfg.noCopy = false) (hbig : s.cfg.size ≤ xs.length) :
    (jprocess s id xs t).out = s.out ++ (if s.buf = [] then [] else [s.buf]) ++ [xs] ∧
    (jprocess s id xs t).buf = [] := by
  by_cases hb : s.buf = []
  · rw [jprocess_take id t hk (Fits.of_nil hb xs), jtake_big_copy id t hbig hc]
    simp [hb]
  · have hf : ¬ Fits s xs := fun hf => hb (hf.1 hbig)
    have e := jpass_copy_eq s t false none hb hc
    rw [jprocess_flush id t hk hf hc,
      jtake_big_copy (s := jpass s t false none) id t (by rw [e]; exact hbig) (by rw [e]; exact hc), e]
    simp [hb]

example :
    (jrun (jinit ⟨.unite, 3, 0, false, false⟩ 0)
      [.item 1 [1, 2] 1, .item 2 [] 2, .item 3 [3, 4] 3, .item 4 [5, 6, 7, 8] 4, .item 5 [9] 5, .close 6]).map
      (fun s => s.out) = some [[1, 2], [3, 4], [5, 6, 7, 8], [9]] := by decide +kernel

end Cqos.C11
