import Cqos.Props.C06v
import Cqos.Props.C17
/-
  C17, "after AddInput(ch, p) returns, elements of ch are delivered tagged p" — the delivery
  half, for a v1 discipline with nothing in flight: the loop-top case that registers the input is
  followed by a round (`calcTactic`, poll actions) that delivers the element at the head of `ch`
  under priority `p`, by the discipline's own steps alone.  Hypotheses about the state after the
  addition, as in `c06_idle_delivers_v1`: the re-divided shares add up to `H`, the added priority
  has a share of at least one (finding F1 otherwise), no other registered priority uses `ch`.
-/
namespace Cqos.C17
open Cqos.C06

theorem c17_add_then_delivers (div : DivFn) (keys : List (Nat × Bool)) (H : Nat) (hH : 0 < H)
    (hnd : (keys.map (·.1)).Nodup) (s s' : St) (acts : List Act) (hr : run div (initV1 div keys H) acts = some s)
    (hidle : s.actual.total = 0) (p c : Nat) (b : Bool)
    (hs : step div s (.top (.add p c b)) = some s')
    (hsum : sumOver s'.prios s'.strategic = H) (hshare : 1 ≤ s'.strategic.get p)
    (halone : ∀ q' inp', alGet s'.inputs q' = some inp' → q' ≠ p → inp'.chan ≠ c)
    (ch : Chan) (x : Nat) (q : List Nat) (hch : alGet s'.chans c = some ch) (hq : ch.queue = x :: q) :
    ∃ acts' s'', run div s' (.calc :: acts') = some s'' ∧
      (∃ dl, s''.delivered = s'.delivered ++ dl ∧ (p, c, x) ∈ dl) ∧
      acts'.length ≤ H + s'.prios.length ∧ (∀ a ∈ acts', isOwn a = true) := by
  obtain ⟨_, _, hwf, _⟩ := C07.reach_initV1 hnd hr
  obtain ⟨hin, _⟩ := c17_add div s s' p c b hwf hs
  have hr' : run div (initV1 div keys H) (acts ++ [.top (.add p c b)]) = some s' :=
    run_append_iff.2 ⟨s, hr, run_cons_iff.2 ⟨s', step_sound hs, rfl⟩⟩
  have htop := (Option.some.inj (stepTop_of_step hs)).symm
  have hpc : s'.pc = .calc := by rw [htop]; rfl
  have hidle' : s'.actual.total = 0 := by
    rw [htop]
    show (clearActual _ s.actual).total = 0
    rw [total_clearActual]; exact hidle
  exact c06_idle_delivers_v1_calc div keys H hH hnd s' _ hr' hpc hidle' hsum p ⟨c, false⟩ hin rfl hshare
    halone ch x q hch hq

end Cqos.C17
