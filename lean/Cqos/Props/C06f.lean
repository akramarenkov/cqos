import Cqos.Props.C02
import Cqos.Props.C07t
/-
  Property C06, first clause, for EVERY waiting item, not only the one at the head of its
  channel (`c06_every_item`).

  A corollary of quiescence (`c07_quiescible`): some continuation empties the channel, and it
  contains no arrival.  By the history invariant of C02 (delivered ++ queued = written, per
  channel, in v2) what it delivered from the channel is therefore exactly what was queued in it.
-/
namespace Cqos.C06
open Cqos.C02

/-- what a transition does to the two histories -/
theorem step_effect {div : DivFn} {s s' : St} {a : Act} (hs : Step div s a s') :
    (s'.arrived = s.arrived ∨ ∃ c x, a = .arrive c x) ∧
    (s'.delivered = s.delivered ∨
      ∃ p inp x, alGet s.inputs p = some inp ∧ s'.delivered = s.delivered ++ [(p, inp.chan, x)]) := by
  rcases step_delivery hs with ⟨p, inp, _, x, _, hP, _, hd, _, _, har⟩ | ⟨hd, _, har, _⟩
  · exact ⟨.inl har, .inr ⟨p, inp, x, hP.input, hd⟩⟩
  · exact ⟨har, .inl hd⟩

theorem arrived_run (div : DivFn) : ∀ (acts : List Act) (u u' : St), u.cfg.v1 = false →
    (∀ a ∈ acts, isOwn a = true ∨ ∃ r, a = .release r) → run div u acts = some u' → u'.arrived = u.arrived := by
  intro acts
  induction acts with
  | nil => intro u u' _ _ hr; cases hr; rfl
  | cons a as ih =>
    intro u u' hv hok hr
    obtain ⟨u1, hs, hr⟩ := run_cons_iff.1 hr
    obtain ⟨ha, has⟩ := List.forall_mem_cons.1 hok
    rw [ih u1 u' (by rw [hs.cfg_eq]; exact hv) has hr]
    rcases (step_effect hs).1 with e | ⟨c, x, e⟩
    · exact e
    · subst e
      rcases ha with h | ⟨r, h⟩ <;> cases h

/-- in v2 an item is delivered under the priority whose channel it came from (channel id = priority) -/
def TagOK (s : St) : Prop := ∀ e ∈ s.delivered, e.2.1 = e.1

theorem tag_run (div : DivFn) : ∀ (acts : List Act) (u u' : St), u.cfg.v1 = false →
    (∀ p inp, alGet u.inputs p = some inp → inp.chan = p) → TagOK u → run div u acts = some u' → TagOK u' := by
  intro acts u u' hv hown h hr
  refine (run_induction (div := div)
    (I := fun t => (t.cfg.v1 = false ∧ ∀ p inp, alGet t.inputs p = some inp → inp.chan = p) ∧ TagOK t)
    (fun {t a t1} ⟨⟨hv, hown⟩, h⟩ hs => ⟨⟨by rw [hs.cfg_eq]; exact hv, v2_inputs_own_chan_step hv hown hs⟩, ?_⟩) ⟨⟨hv, hown⟩, h⟩ hr).2
  rcases (step_effect hs).2 with e | ⟨p, inp, x, hin, e⟩
  · intro d hd; rw [e] at hd; exact h d hd
  · intro d hd
    rw [e] at hd
    rcases List.mem_append.1 hd with hd | hd
    · exact h d hd
    · cases List.mem_singleton.1 hd
      exact hown p inp hin

/-- **C06 (every waiting item).** After ANY run of a v2 discipline with a divider obeying the sum
    rule: every item `x` still queued — at whatever position — in the channel of a registered,
    undrained priority `p` is delivered under `p` by some continuation that consists only of
    handlers releasing items and of the discipline's own steps. -/
theorem c06_every_item (div : DivFn) (hg : SumRule div) (keys : List (Nat × Bool)) (H : Nat) (hH : 0 < H)
    (hnd : (keys.map (·.1)).Nodup) (s0 s : St) (acts : List Act) (h0 : initV2 div keys H = .ok s0)
    (hsum : sumOver s0.prios s0.strategic = H) (hr : run div s0 acts = some s)
    (p : Nat) (inp : Input) (hin : alGet s.inputs p = some inp) (hud : inp.drained = false)
    (ch : Chan) (pre : List Nat) (x : Nat) (post : List Nat)
    (hch : alGet s.chans inp.chan = some ch) (hq : ch.queue = pre ++ x :: post) :
    ∃ acts' s', run div s acts' = some s' ∧
      (∃ dl, s'.delivered = s.delivered ++ dl ∧ (p, inp.chan, x) ∈ dl) ∧
      (∀ a ∈ acts', isOwn a = true ∨ ∃ r, a = .release r) := by
  obtain ⟨acts1, s1, hr1, hok1, he1, _, _⟩ :=
    C07.c07_quiescible div hg keys H hH hnd s0 h0 hsum (qsum s) s acts hr (Nat.le_refl _)
  have hr01 : run div s0 (acts ++ acts1) = some s1 := run_append_iff.2 ⟨s, hr, hr1⟩
  have F := reach_facts div hg keys H hH hnd s0 s acts h0 hsum hr
  have F1 := reach_facts div hg keys H hH hnd s0 s1 (acts ++ acts1) h0 hsum hr01
  have hc : inp.chan = p := F.own p inp hin
  obtain ⟨⟨dl, hdl, _⟩, _⟩ := C07.chans_run div acts1 s s1 F.v2 hok1 hr1
  have hqs : queueOf s p = pre ++ x :: post := by
    unfold queueOf; rw [← hc, hch]; exact hq
  -- `p` is still registered in `s1`, and nothing is queued for it there, drained or not
  have hqs1 : queueOf s1 p = [] := by
    have hmem : p ∈ s1.prios := by
      rw [F1.prios, ← F.prios]; exact (F.hwf.regs p).2 (by rw [hin]; rfl)
    obtain ⟨inp1, hin1⟩ := Option.isSome_iff_exists.1 ((F1.hwf.regs p).1 hmem)
    have hc1 : inp1.chan = p := F1.own p inp1 hin1
    unfold queueOf
    cases hch1 : alGet s1.chans p with
    | none => rfl
    | some ch1 =>
      cases hdr : inp1.drained with
      | false => exact he1 p inp1 hin1 hdr ch1 (by rw [hc1]; exact hch1)
      | true =>
        obtain ⟨chd, e1, _, e3⟩ := F1.ht.drained p inp1 hin1 hdr
        rw [hc1, hch1] at e1; cases e1
        exact e3
  -- the histories of channel `p` in `s` and in `s1`: the same items were written, so what the
  -- continuation delivered from it is what was queued in it
  have hp0 := initV2_pristine div keys H s0 h0
  have hv0 := initV2_v1 h0
  have hf := c02_fifo div s0 s acts hp0 hr (c02_v2_no_drop div s0 s acts hp0 hv0 hr) p
  have hf1 := c02_fifo div s0 s1 (acts ++ acts1) hp0 hr01 (c02_v2_no_drop div s0 s1 (acts ++ acts1) hp0 hv0 hr01) p
  have htk : chanItems (dl.map untag) p = pre ++ x :: post := by
    rw [arrived_run div acts1 s s1 F.v2 hok1 hr1, ← hf, hqs1, List.append_nil, hdl, List.map_append,
      chanItems_app, hqs] at hf1
    exact List.append_cancel_left hf1
  have hx : x ∈ chanItems (dl.map untag) p := by
    rw [htk]; exact List.mem_append_right _ (List.mem_cons_self ..)
  obtain ⟨⟨e1, e2, e3⟩, he, hue⟩ := List.mem_map.1 (mem_chanItems.1 hx)
  simp only [untag, Prod.mk.injEq] at hue
  obtain ⟨rfl, rfl⟩ := hue
  -- it was delivered under the priority of its channel
  have htag : TagOK s1 := tag_run div (acts ++ acts1) s0 s1 hv0 (v2_inputs_own_chan div keys H s0 s0 [] h0 rfl)
    (fun e he => by rw [hp0.2.2.1] at he; cases he) hr01
  have ht : e2 = e1 := htag _ (by rw [hdl]; exact List.mem_append_right _ he)
  rw [← ht] at he
  exact ⟨acts1, s1, hr1, ⟨dl, hdl, by rw [hc]; exact he⟩, hok1⟩

end Cqos.C06
