import Cqos.Props.C04
/-
  Finding F2 (C04, window clause at the RECEIVING side).  The theorems of Props/C04.lean bound the
  times at which the discipline's sends complete.  The output channel of `v2/limit` is buffered
  (capacity `1 + cap(Input)`), so what a consumer sees is the limit machine composed with a FIFO
  buffer.  For that composition the window clause "any window of length W contains at most
  Quantity·(⌊W/Interval⌋+2) output elements … however the consumer reads" is FALSE: a consumer that
  stays away and then takes everything receives the whole buffer plus two more portions at the
  same clock reading.  This file states the composition and proves the negation by a concrete,
  kernel-checked witness (the same scenario fails against the real code: black-box pattern
  `paused-consumer`, `audit/hunt-D/c04_output_buffer_burst_test.go`).
-/
namespace Cqos.C04

/-- the limit machine, its output buffer, and what the consumer has received (element, reading) -/
structure BSt where
  lim : LSt
  cap : Nat
  buf : List Nat
  got : List (Nat × Nat)
  deriving Repr

inductive BAct
  | lim (a : LAct)      -- a step of the discipline; a send needs room in the buffer
  | take (t : Nat)      -- the consumer receives the oldest buffered element at reading `t`
  deriving Repr, DecidableEq

def bstep (s : BSt) : BAct → Option BSt
  | .lim (.sent t) =>
    if s.buf.length < s.cap then
      (match s.lim.pc with
       | .holding _ _ x => (lstep s.lim (.sent t)).map (fun l => { s with lim := l, buf := s.buf ++ [x] })
       | _ => none)
    else none
  | .lim a => (lstep s.lim a).map (fun l => { s with lim := l })
  | .take t =>
    match s.buf with
    | [] => none
    | x :: r => if s.lim.now ≤ t then some { s with buf := r, got := s.got ++ [(x, t)] } else none

def brun (s : BSt) : List BAct → Option BSt
  | [] => some s
  | a :: as => match bstep s a with
    | some s' => brun s' as
    | none => none

def binit (cfg : LCfg) (cap t0 : Nat) : BSt := { lim := linit cfg t0, cap := cap, buf := [], got := [] }

/-- one portion of Quantity 1 at reading `t`: start, receive `x` from the input, send it, read the
    duration; the pause that follows ends at `w` -/
def portion (x t w : Nat) : List BAct :=
  [.lim (.start t), .lim (.recv x), .lim (.sent t), .lim (.batchEnd t), .lim (.wake w)]

/-- **F2, on the model.** Quantity 1 per Interval 10, output buffer of capacity 3.  The consumer
    stays away until reading 100; the discipline fills the buffer (readings 0, 10, 20) and blocks
    in its fourth send.  At reading 100 the consumer takes everything as fast as it can: the three
    buffered elements, the element whose send was blocked, and — the blocked portion having taken
    longer than Interval, no pause follows — the next one: FIVE elements are received at reading
    100, where the window clause allows `Quantity·(⌊0/Interval⌋+2) = 2`. -/
theorem c04_receive_side_window_fails :
    (brun (binit ⟨1, 10⟩ 3 0)
      (portion 1 0 10 ++ portion 2 10 20 ++ portion 3 20 30 ++
       [.lim (.start 30), .lim (.recv 4),            -- the send of 4 blocks: the buffer is full
        .take 100, .take 100, .take 100,             -- the consumer is back
        .lim (.sent 100), .take 100,                 -- room: 4 is sent and received
        .lim (.batchEnd 100), .lim (.wake 100),      -- the portion took 70 ≥ Interval: no pause
        .lim (.start 100), .lim (.recv 5), .lim (.sent 100), .take 100])).map
      (fun s => ((s.got.filter (fun e => e.2 == 100)).length, s.lim.sent.map (·.2))) =
      some (5, [0, 10, 20, 100, 100]) := by decide +kernel

/-- … while the send-side clause holds for the very same run (`c04_window_count` is a theorem for
    every run): at most 2 sends complete in any window shorter than Interval. -/
example : ([0, 10, 20, 100, 100].filter (fun t => decide (100 ≤ t ∧ t ≤ 100))).length ≤ 1 * (0 / 10 + 2) := by decide

end Cqos.C04
