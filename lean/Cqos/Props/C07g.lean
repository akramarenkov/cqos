import Cqos.Props.C07p
/-
  Property C07, v1 clause, promptness: once `GracefulStop()` has been called and "that is the case",
  a v1 discipline terminates by its own steps alone — the default case of the loop-top `select`,
  then as in v2 (`quiet_step`, Props/C07p.lean) — within `pmuG s` steps, at most `5·n + 13` (n priorities).

  Besides shares that add up to `H`, `QuietG` asks that EVERY registered priority has a share of at
  least one.  v2's constructor checks that (`ErrHandlersQuantityTooSmall`), v1's does not — finding
  F1: a v1 priority with a zero share is never polled, its closed input never marked drained, and
  `GracefulStop()` does not return (`c07_v1_zero_share_graceful_hangs`, the configuration of
  `c06_v1_zero_share_starves`).
-/
namespace Cqos.C07

/-- **C07 (v1, promptness of GracefulStop, one step).** In a quiet v1 state with a graceful stop
    pending that has not terminated, `promptActG` is enabled, leads to such a state again and
    strictly decreases `pmuG`. -/
theorem c07_graceful_step (div : DivFn) (s : St) (hq : QuietG s) (hnd : ∀ e, s.pc ≠ .done e) :
    ∃ s', step div s (promptActG s) = some s' ∧ QuietG s' ∧ pmuG s' < pmuG s ∧ s'.prios = s.prios := by
  obtain ⟨s', hs, hq', hlt, hp, hc, hg, hst⟩ := quiet_step div s hq.toC hnd
  exact ⟨s', hs, hq'.quietG (by rw [hc]; exact hq.v1) (by rw [hg]; exact hq.gr) (by rw [hst]; exact hq.ns), hlt, hp⟩

def gracefulRun (div : DivFn) : Nat → St → St
  | 0, s => s
  | k + 1, s =>
    match step div s (promptActG s) with
    | some s' => gracefulRun div k s'
    | none => s

theorem gracefulRun_iterates (div : DivFn) : Iterates (fun s => step div s (promptActG s)) (gracefulRun div) :=
  ⟨fun _ => rfl, fun n s => by rw [gracefulRun]; cases step div s (promptActG s) <;> rfl⟩

/-- **C07 (v1, promptness of GracefulStop).** From every quiet v1 state with a graceful stop
    pending the discipline terminates by itself — no feedback, no arrival, no command, no
    timer — within `pmuG s` of its own steps. -/
theorem c07_graceful_prompt (div : DivFn) (n : Nat) (s : St) (hq : QuietG s) (hn : pmuG s ≤ n) :
    ∃ e, (gracefulRun div n s).pc = .done e :=
  ((gracefulRun_iterates div).reaches (P := QuietG) (D := fun s => ∃ e, s.pc = .done e) (μ := pmuG)
    (fun s hq hd => by
      obtain ⟨s', hs, hq', hlt, _⟩ := c07_graceful_step div s hq (fun e he => hd ⟨e, he⟩)
      exact ⟨s', hs, hq', hlt⟩)
    (fun s ⟨e, he⟩ => by unfold step; simp [promptActG, promptAct, he]) n s hq hn).2

/-- **C07 (v1: GracefulStop returns promptly once that is the case).** After ANY run of a v1
    discipline — arrivals, feedbacks, AddInput / RemoveInput, in any order — in which
    `GracefulStop()` has been called and no Stop / cancellation: if every registered input is
    closed and empty, nothing is in flight and no feedback is outstanding, and the shares in
    force add up to `H` with at least one handler for every registered priority, then the
    discipline — by its own steps alone — reaches `done` within `5·n + 13` steps, whatever it
    was doing. -/
theorem c07_graceful_prompt_reachable (div : DivFn) (keys : List (Nat × Bool)) (H : Nat) (hH : 0 < H)
    (hnd : (keys.map (·.1)).Nodup) (s : St) (acts : List Act) (hr : run div (initV1 div keys H) acts = some s)
    (hgr : s.graceful = true) (hns : s.stopped = false)
    (hsum : sumOver s.prios s.strategic = H) (hfill : ∀ p ∈ s.prios, 1 ≤ s.strategic.get p)
    (hclosed : ∀ p inp, alGet s.inputs p = some inp →
      ∃ ch, alGet s.chans inp.chan = some ch ∧ ch.closed = true ∧ ch.queue = [])
    (hfl : s.inflight.total = 0) (hpend : s.pending = []) :
    QuietG s ∧ ∃ e, (gracefulRun div (5 * s.prios.length + 13) s).pc = .done e := by
  obtain ⟨_, hinv, hwf, hcfg⟩ := reach_initV1 hnd hr
  have hwg : WG s := run_induction (s := initV1 div keys H) (fun hi ht => ht.wg hi) (fun hp => nomatch hp) hr
  have hHs : s.cfg.H = H := by rw [hcfg]; rfl
  have hv1 : s.cfg.v1 = true := by rw [hcfg]; rfl
  obtain ⟨hq, hb⟩ := QuietC.of_inv hinv hwf hclosed hfl hpend (hHs ▸ hsum) (hHs ▸ hH) hfill (.inr hgr) (fun _ => hv1)
    (fun hw => by
      have := hwg hw (hHs ▸ hsum) (hHs ▸ hH)
      have := hinv.core.tot
      rw [hfl, hpend] at this
      simp at this
      omega)
  exact ⟨hq.quietG hv1 hgr hns, c07_graceful_prompt div _ s (hq.quietG hv1 hgr hns) (by omega)⟩

/-- control point at the loop top?, undrained registered priorities, in flight as accounted,
    feedbacks outstanding, graceful?, stopped? -/
def gview (s : St) : List Nat :=
  [if atTop s then 1 else 0] ++ (s.inputs.filter (fun kv => !kv.2.drained)).map (·.1) ++
  [s.actual.total, s.pending.length, if s.graceful then 1 else 0, if s.stopped then 1 else 0]

def f1first : List Act := [.close 3, .close 2, .close 1, .graceful, .top .none, .calc, .pollClosed, .skip, .skip, .recalc,
  .skip, .pollClosed, .skip, .endRound, .limitedStop]
def f1round : List Act := [.top .none, .calc, .skip, .skip, .skip, .recalc, .skip, .skip, .skip, .endRound, .limitedStop]

/-- F1 seen from C07, on the model (and on the code: `GracefulStop()` does not return).  v1,
    priorities 3, 2, 1, one handler, Fair: the shares are 1, 0, 0.  All three inputs are closed
    and empty, nothing was ever delivered, `GracefulStop()` is called.  The first round
    (`f1first`) marks the inputs of 3 and — through the second-phase redistribution — of 2 as
    drained; the next round (`f1round`) gives the handler to 3 and then to 2 again, never to 1,
    whose closed input is therefore not looked at, and ends with the view (`gview`) it began with:
    at the loop top, priority 1 undrained, not terminated. -/
theorem c07_v1_zero_share_graceful_hangs :
    (run f1div (initV1 f1div [(3, true), (2, true), (1, true)] 1) f1first).map gview =
      some [1, 1, 0, 0, 1, 0] ∧
    (run f1div (initV1 f1div [(3, true), (2, true), (1, true)] 1) (f1first ++ f1round)).map gview =
      some [1, 1, 0, 0, 1, 0] := by decide +kernel

def isDone (s : St) : Bool := match s.pc with | .done _ => true | _ => false

/-- the hypotheses of `c07_graceful_prompt_reachable` are satisfiable, and the bound is met:
    priorities 2 and 1, two handlers, Fair (shares 1 and 1); both inputs closed, GracefulStop
    called — the discipline is `done` after at most 5·2 + 13 of its own steps -/
example :
    (run f1div (initV1 f1div [(2, true), (1, true)] 2) [.close 2, .close 1, .graceful]).map
      (fun s => [if sumOver s.prios s.strategic = 2 then 1 else 0, if s.prios.all (fun p => 1 ≤ s.strategic.get p) then 1 else 0,
                 if s.graceful then 1 else 0, if s.stopped then 1 else 0, s.inflight.total, s.pending.length,
                 if isDone (gracefulRun f1div 23 s) then 1 else 0]) = some [1, 1, 1, 0, 0, 0, 1] := by decide +kernel

end Cqos.C07
