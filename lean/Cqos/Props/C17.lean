import Cqos.Props.C02
import Cqos.Props.C07
/-
  Property C17 — v1: AddInput / RemoveInput take effect on return and preserve the
  invariants.

  `AddInput` / `RemoveInput` hand their argument to the discipline over an unbuffered
  channel, so the caller's return coincides with the loop-top `select` taking that case:
  the actions `top (add p c b)` / `top (remove p)` of the machine.

  * after `remove p` the priority is unregistered, and a channel that no registered
    priority refers to is never received from — until it is added again;
  * after `add p c` deliveries from `c` carry `p` (C02's tag theorem reads the registration
    at the moment of delivery), and whatever channel `p` had before is no longer referred
    to by `p`;
  * `actual` of a removed priority survives until fed back (`clearActual` removes only zero
    entries of unregistered priorities and never changes a count);
  * capacity (C01), exactly-once/FIFO of everything read (C02), the argument contract (C15)
    and the termination invariant (C07) are proved for the full v1 action alphabet, i.e.
    across any sequence of additions, replacements, removals and re-additions.
-/
namespace Cqos.C17
open Cqos.C02

/-- no registered priority refers to channel `c` -/
def Unreg (s : St) (c : Nat) : Prop := ∀ p inp, alGet s.inputs p = some inp → inp.chan ≠ c

/-- **C17 (RemoveInput takes effect on return).** -/
theorem c17_remove (div : DivFn) (s s' : St) (p : Nat) (hw : C15.WF s)
    (hs : step div s (.top (.remove p)) = some s') :
    alGet s'.inputs p = none ∧ p ∉ s'.prios := by
  cases stepTop_of_step hs
  refine ⟨?_, ?_⟩
  · show alGet (alErase s.inputs p) p = none
    rw [alGet_alErase _ _ _ hw.inputsNd, if_pos rfl]
  · show p ∉ s.prios.filter (· ≠ p)
    simp

/-- if `p` was the only priority referring to channel `c`, then after `remove p` nobody does -/
theorem c17_remove_unreg (div : DivFn) (s s' : St) (p c : Nat) (hw : C15.WF s)
    (honly : ∀ q inp, alGet s.inputs q = some inp → inp.chan = c → q = p)
    (hs : step div s (.top (.remove p)) = some s') : Unreg s' c := by
  cases stepTop_of_step hs
  intro q inp hq hc
  obtain ⟨hne, hq⟩ := alGet_of_alErase hw.inputsNd hq
  exact hne (honly q inp hq hc).symm

/-- **C17 (an unregistered channel is never read).** While no registered priority refers to
    channel `c`, no step receives anything from it; and it stays unreferred-to unless the
    step is an `AddInput` of that very channel. -/
theorem c17_unregistered_not_read (div : DivFn) (s s' : St) (a : Act) (c : Nat) (hw : C15.WF s)
    (hu : Unreg s c) (hs : step div s a = some s') :
    chanItems s'.taken c = chanItems s.taken c ∧ (Unreg s' c ∨ ∃ p b, a = .top (.add p c b)) := by
  have same : ∀ u : St, u.taken = s.taken → u.inputs = s.inputs →
      chanItems u.taken c = chanItems s.taken c ∧ (Unreg u c ∨ ∃ p b, a = .top (.add p c b)) := by
    intro u ht hi
    exact ⟨by rw [ht], Or.inl (by unfold Unreg; rw [hi]; exact hu)⟩
  -- an input is registered or replaced: its channel must not be `c`
  have set : ∀ {u : St} {p : Nat} {inp' : Input}, u.inputs = alSet s.inputs p inp' → inp'.chan ≠ c → Unreg u c := by
    intro u p inp' hi hne q inq hq
    rw [hi, alGet_alSet] at hq
    split at hq
    · cases hq; exact hne
    · exact hu q inq hq
  cases step_sound hs with
  | arrive _ _ | close _ | release _ | stop _ | graceful _ => exact same _ rfl rfl
  | own _ ho =>
    cases ho with
    | @topAdd p c' b _ =>
      refine ⟨rfl, ?_⟩
      by_cases hc : c' = c
      · subst hc; exact .inr ⟨p, b, rfl⟩
      · exact .inl (set rfl hc)
    | topRemove _ =>
      exact ⟨rfl, .inl fun q inq hq => hu q inq (alGet_of_alErase hw.inputsNd hq).2⟩
    | «calc» => rw [stepCalc_eq]; exact same _ rfl rfl
    | recalc => rw [stepRecalc_eq]; exact same _ rfl rfl
    | consume _ _ hk =>
      cases hk with
      | waitFb => rw [afterWaitFb_eq]; exact same _ rfl rfl
      | _ => exact same _ rfl rfl
    | pollItem hP _ | pollDrop hP _ _ _ =>
      refine ⟨?_, .inl hu⟩
      simp only [chanItems_append, hu _ _ hP.input, if_false, List.append_nil]
    | @pollClosed _ _ _ inp _ hP _ _ => exact ⟨rfl, .inl (set rfl (hu _ inp hP.input))⟩
    | _ => exact same _ rfl rfl

/-- **C17 (AddInput takes effect on return).** After `add p c` the priority `p` is registered
    with channel `c` (not drained), replacing whatever it referred to before. -/
theorem c17_add (div : DivFn) (s s' : St) (p c : Nat) (b : Bool) (hw : C15.WF s)
    (hs : step div s (.top (.add p c b)) = some s') :
    alGet s'.inputs p = some ⟨c, false⟩ ∧ p ∈ s'.prios := by
  cases stepTop_of_step hs
  refine ⟨?_, ?_⟩
  · show alGet (alSet s.inputs p ⟨c, false⟩) p = _
    rw [alGet_alSet, if_pos rfl]
  show p ∈ sortDesc (if (alGet s.inputs p).isSome then s.prios else s.prios ++ [p])
  rw [mem_sortDesc]
  split
  · rename_i h
    exact (hw.regs p).2 h
  · simp

/-- **C17 (in-flight items of a removed priority stay accounted for).** `RemoveInput` never
    changes an `actual` count: `clearActual` only deletes zero entries. -/
theorem c17_actual_survives (div : DivFn) (s s' : St) (p q : Nat) (hinv : Inv s)
    (hs : step div s (.top (.remove p)) = some s') : s'.actual.get q = s.actual.get q := by
  cases stepTop_of_step hs
  exact get_clearActual _ _ hinv.core.nd q

end Cqos.C17
