import Cqos.Props.C10
import Cqos.Props.C09
/-
  Property C09, timed clause at run level: "with a timeout, a non-maximal slice that is not the
  final one is delivered no earlier than Timeout after the previous slice was delivered (or after
  creation)".  A slice is cut short before the input closes only by a ticker firing; for every
  run with a monotone clock (`monoRun`, C10), a ticker firing that emits at reading `t` satisfies
  `e + Timeout ≤ t` for the reading `e` of EVERY earlier emission and `t0 + Timeout ≤ t` for the
  creation reading — join, unite and v1 join, copy and no-copy mode.
-/
namespace Cqos.C09
open Cqos.C10

/-- emissions lie in the past, and while the discipline is not awaiting a release its timer was
    restarted at or after the latest of them (and at or after creation) -/
structure EInvT (t0 : Nat) (s : JSt) (now : Nat) : Prop where
  past : ∀ e ∈ s.emitAt, e ≤ now
  pnow : s.passAt ≤ now
  timer : s.pc = .run → (∀ e ∈ s.emitAt, e ≤ s.passAt) ∧ t0 ≤ s.passAt

theorem le_snoc {l : List Nat} {t : Nat} (h : ∀ e ∈ l, e ≤ t) : ∀ e ∈ l ++ [t], e ≤ t :=
  List.forall_mem_append.2 ⟨h, List.forall_mem_singleton.2 (Nat.le_refl t)⟩

theorem e_jpass {t0 : Nat} {s : JSt} {now t : Nat} (h : EInvT t0 s now) (ht : now ≤ t) (h0 : t0 ≤ now) (tk : Bool)
    (nx : Option (Nat × List Nat)) : EInvT t0 (jpass s t tk nx) t := by
  have hpast : ∀ e ∈ s.emitAt, e ≤ t := fun e he => Nat.le_trans (h.past e he) ht
  rcases jpass_cases s t tk nx with ⟨_, e⟩ | ⟨_, _, e⟩ | ⟨_, _, e⟩ <;> rw [e]
  · exact ⟨hpast, Nat.le_refl _, fun _ => ⟨hpast, Nat.le_trans h0 ht⟩⟩
  · exact ⟨le_snoc hpast, Nat.le_refl _, fun _ => ⟨le_snoc hpast, Nat.le_trans h0 ht⟩⟩
  · exact ⟨le_snoc hpast, Nat.le_trans h.pnow ht, fun hr => by cases hr⟩

theorem e_jappendPath {t0 : Nat} {s : JSt} {now t : Nat} (h : EInvT t0 s now) (ht : now ≤ t) (h0 : t0 ≤ now)
    (xs : List Nat) : EInvT t0 (jappendPath s xs t) t := by
  have happ : EInvT t0 (jappend s xs t) t :=
    ⟨fun e he => Nat.le_trans (h.past e he) ht, Nat.le_trans h.pnow ht, fun hr => h.timer hr⟩
  rw [jappendPath_eq]
  split
  · exact happ
  · exact e_jpass happ (Nat.le_refl _) (Nat.le_trans h0 ht) false none

theorem e_jcont {t0 : Nat} {s : JSt} {now t : Nat} (h : EInvT t0 s now) (ht : now ≤ t) (h0 : t0 ≤ now) (id : Nat)
    (xs : List Nat) : EInvT t0 (jcont (jlog s xs) id xs t) t := by
  by_cases hbig : s.cfg.size ≤ xs.length
  · have hall := le_snoc fun e he => Nat.le_trans (h.past e he) ht
    cases hc : s.cfg.noCopy with
    | true =>
      rw [jtake_big_nocopy id t hbig hc]
      exact ⟨hall, Nat.le_refl _, fun hr => by cases hr⟩
    | false =>
      rw [jtake_big_copy id t hbig hc]
      exact ⟨hall, Nat.le_refl _, fun _ => ⟨hall, Nat.le_trans h0 ht⟩⟩
  · rw [jtake_small id t (Nat.not_le.1 hbig)]
    exact e_jappendPath (s := jlog s xs) ⟨h.past, h.pnow, h.timer⟩ ht h0 xs

/-- **One step keeps `EInvT`** (a running timer was restarted at or after every emission) when its
    clock reading is not in the past. -/
theorem e_step (t0 : Nat) (s s' : JSt) (a : JAct) (now : Nat) (h : EInvT t0 s now) (h0 : t0 ≤ now)
    (hclk : ∀ t, clockOf a = some t → now ≤ t) (hs : JStep s a s') :
    EInvT t0 s' ((clockOf a).getD now) := by
  have later : ∀ {t}, now ≤ t → EInvT t0 s t := fun ht =>
    ⟨fun e he => Nat.le_trans (h.past e he) ht, Nat.le_trans h.pnow ht, h.timer⟩
  have hrel : ∀ {t}, now ≤ t → EInvT t0 (jrelease s t) t := fun ht =>
    ⟨(later ht).past, Nat.le_refl _, fun _ => ⟨(later ht).past, Nat.le_trans h0 ht⟩⟩
  cases hs with
  | skip | idle => exact later (hclk _ rfl)
  | join => exact e_jappendPath (s := jlog s _) ⟨h.past, h.pnow, h.timer⟩ (hclk _ rfl) h0 _
  | hold | tick => exact e_jpass h (hclk _ rfl) h0 _ _
  | flush =>
    exact e_jcont (e_jpass h (hclk _ rfl) h0 false none) (Nat.le_refl _) (Nat.le_trans h0 (hclk _ rfl)) _ _
  | take => exact e_jcont h (hclk _ rfl) h0 _ _
  | @closeHold t =>
    have hp := e_jpass h (hclk t rfl) h0 false none
    exact ⟨hp.past, hp.pnow, hp.timer⟩
  | @closeDone t | @stopFlush t =>
    have hp := e_jpass h (hclk t rfl) h0 false none
    exact ⟨hp.past, hp.pnow, fun hr => by cases hr⟩
  | release => exact hrel (hclk _ rfl)
  | resume => exact e_jcont (hrel (hclk _ rfl)) (Nat.le_refl _) (Nat.le_trans h0 (hclk _ rfl)) _ _
  | stop => exact ⟨h.past, h.pnow, h.timer⟩
  | stopRun => exact ⟨(later (hclk _ rfl)).past, Nat.le_refl _, fun hr => by cases hr⟩
  | stopAwait => exact ⟨(later (hclk _ rfl)).past, (later (hclk _ rfl)).pnow, fun hr => by cases hr⟩

theorem e_run (t0 : Nat) (acts : List JAct) (s s' : JSt) (now now' : Nat) (h : EInvT t0 s now) (h0 : t0 ≤ now)
    (hr : monoRun s now acts = some (s', now')) : EInvT t0 s' now' ∧ t0 ≤ now' :=
  monoRun_induction (I := fun u n => EInvT t0 u n ∧ t0 ≤ n)
    (fun {_ a _ _} hu hclk hs => ⟨e_step t0 _ _ _ _ hu.1 hu.2 hclk hs, by
      cases hc : clockOf a with
      | none => exact hu.2
      | some t => exact Nat.le_trans hu.2 (hclk t hc)⟩) ⟨h, h0⟩ hr

/-- **C09 (timed, run level).** In every run with a monotone clock: when a ticker firing at
    reading `t` cuts a slice short, `Timeout` has elapsed since every earlier emission and since
    the creation of the discipline. -/
theorem c09_tick_after_timeout (cfg : JCfg) (t0 : Nat) (acts : List JAct) (s s' : JSt) (now t : Nat)
    (hr : monoRun (jinit cfg t0) t0 acts = some (s, now)) (hs : jstep s (.tick t) = some s') (hem : s'.out ≠ s.out) :
    (∀ e ∈ s.emitAt, e + s.cfg.timeout ≤ t) ∧ t0 + s.cfg.timeout ≤ t ∧ s.cfg.timeout ≠ 0 := by
  have h0 : EInvT t0 (jinit cfg t0) t0 :=
    ⟨fun _ he => (nomatch he), Nat.le_refl _, fun _ => ⟨fun _ he => (nomatch he), Nat.le_refl _⟩⟩
  obtain ⟨hi, _⟩ := e_run t0 acts (jinit cfg t0) s t0 now h0 (Nat.le_refl _) hr
  obtain ⟨hge, hne⟩ := c09_tick_needs_timeout s s' t hs hem
  have hrunpc : s.pc = .run := by
    cases JStep.of_jstep hs with | idle h | tick h => exact h
  obtain ⟨htm, ht0⟩ := hi.timer hrunpc
  -- `passAt ≤ t`, for else `t - passAt = 0` and the timeout would be `0`
  have key : ∀ e, e ≤ s.passAt → e + s.cfg.timeout ≤ t := fun e _ => by omega
  exact ⟨fun e he => key e (htm e he), key t0 ht0, hne⟩

/-- non-vacuity: JoinSize 3, Timeout 100; the fourth element sits alone; the firing at 50 does
    nothing, the firing at 200 cuts the slice short: 200 ≥ 3 + 100 (previous emission at 3) -/
example :
    (monoRun (jinit ⟨.join, 3, 100, false, false⟩ 0) 0
      [.item 1 [1] 1, .item 2 [2] 2, .item 3 [3] 3, .item 4 [4] 4, .tick 50, .tick 200]).map
      (fun r => (r.1.out, r.1.emitAt, r.1.byTick)) = some ([[1, 2, 3], [4]], [3, 200], [false, true]) := by decide +kernel

end Cqos.C09
