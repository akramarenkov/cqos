import Cqos.Lemmas.AssocList
import Cqos.Lemmas.Step
import Cqos.Lemmas.V2
/-
  Property C02 — every item delivered exactly once, correctly tagged, FIFO per priority.

  History variables of the machine: `arrived` (every `ch <- x` in order), `taken` (every
  receive from an input, in order), `delivered` (every send on the output, with the
  priority tag and the channel it came from), `dropped` (v1: received, but the send was
  aborted by Stop/cancel).  The theorems hold for every action list, i.e. every arrival
  timing, channel capacity, release delay and divider.
-/
namespace Cqos.C02

/-- the items of channel `c` in a `(channel, item)` log, in order -/
def chanItems (l : List (Nat × Nat)) (c : Nat) : List Nat :=
  (l.filter (fun e => e.1 == c)).map (·.2)

/-- what is still waiting in channel `c` -/
def queueOf (s : St) (c : Nat) : List Nat :=
  match alGet s.chans c with
  | some ch => ch.queue
  | none => []

def untag (e : Nat × Nat × Nat) : Nat × Nat := (e.2.1, e.2.2)

structure HInv (s : St) : Prop where
  /-- per channel: received ++ still queued = written -/
  fifo : ∀ c, chanItems s.taken c ++ queueOf s c = chanItems s.arrived c
  /-- everything delivered was received, in the same order -/
  sub : (s.delivered.map untag).Sublist s.taken
  /-- without an aborted send, delivered = received -/
  all : s.dropped = [] → s.delivered.map untag = s.taken
  /-- a send is aborted only in v1 after Stop / cancel -/
  drop : s.dropped = [] ∨ (s.cfg.v1 = true ∧ s.stopped = true)

theorem chanItems_append (l : List (Nat × Nat)) (c d x : Nat) :
    chanItems (l ++ [(d, x)]) c = chanItems l c ++ (if d = c then [x] else []) := by
  unfold chanItems
  rw [List.filter_append, List.map_append]
  by_cases h : d = c <;> simp [h]

theorem chanItems_app (l1 l2 : List (Nat × Nat)) (c : Nat) :
    chanItems (l1 ++ l2) c = chanItems l1 c ++ chanItems l2 c := by
  unfold chanItems
  rw [List.filter_append, List.map_append]

theorem mem_chanItems {l : List (Nat × Nat)} {c x : Nat} : x ∈ chanItems l c ↔ (c, x) ∈ l := by
  unfold chanItems
  simp only [List.mem_map, List.mem_filter, beq_iff_eq]
  constructor
  · rintro ⟨e, ⟨he, hc⟩, hx⟩
    obtain ⟨e1, e2⟩ := e
    simp only at hc hx
    subst hc; subst hx; exact he
  · intro h; exact ⟨(c, x), ⟨h, rfl⟩, rfl⟩

/-- fields of the state the history invariant talks about -/
structure Same (s s' : St) : Prop where
  q : ∀ c, queueOf s' c = queueOf s c
  taken : s'.taken = s.taken
  arrived : s'.arrived = s.arrived
  delivered : s'.delivered = s.delivered
  dropped : s'.dropped = s.dropped
  v1 : s'.cfg.v1 = s.cfg.v1
  stopped : s.stopped = true → s'.stopped = true

theorem HInv.of_same {s s' : St} (h : HInv s) (e : Same s s') : HInv s' :=
  ⟨fun c => by rw [e.taken, e.arrived, e.q]; exact h.fifo c,
   by rw [e.delivered, e.taken]; exact h.sub,
   by rw [e.delivered, e.taken, e.dropped]; exact h.all,
   by rw [e.dropped, e.v1]
      rcases h.drop with d | ⟨d1, d2⟩
      · exact Or.inl d
      · exact Or.inr ⟨d1, e.stopped d2⟩⟩

theorem same_of_eq {s s' : St} (hc : s'.chans = s.chans) (ht : s'.taken = s.taken)
    (ha : s'.arrived = s.arrived) (hd : s'.delivered = s.delivered) (hdr : s'.dropped = s.dropped)
    (hv : s'.cfg = s.cfg) (hs : s'.stopped = s.stopped) : Same s s' :=
  ⟨fun c => by simp [queueOf, hc], ht, ha, hd, hdr, by rw [hv], fun h => by rw [hs]; exact h⟩

theorem queueOf_alSet {s u : St} {c : Nat} {ch : Chan} (hu : u.chans = alSet s.chans c ch)
    (hq : ch.queue = queueOf s c) (d : Nat) : queueOf u d = queueOf s d := by
  unfold queueOf at hq ⊢
  rw [hu, alGet_alSet]
  by_cases e : c = d
  · subst e; rw [if_pos rfl]; exact hq
  · rw [if_neg e]

/-- channel `c` changes from `ch` to `ch'` while `T` is appended to what was received from it and
    `A` to what was written to it: the per-channel equation is kept if `T ++ ch'.queue = ch.queue ++ A`
    (a receive: `T = [x]`, `ch.queue = x :: ch'.queue`; a send: `A = [x]`, `ch'.queue = ch.queue ++ [x]`) -/
theorem fifo_alSet {s u : St} (h : ∀ d, chanItems s.taken d ++ queueOf s d = chanItems s.arrived d)
    {c : Nat} {ch ch' : Chan} {T A : List Nat} (hch : alGet s.chans c = some ch) (hu : u.chans = alSet s.chans c ch')
    (ht : ∀ d, chanItems u.taken d = chanItems s.taken d ++ if c = d then T else [])
    (ha : ∀ d, chanItems u.arrived d = chanItems s.arrived d ++ if c = d then A else [])
    (hq : T ++ ch'.queue = ch.queue ++ A) (d : Nat) :
    chanItems u.taken d ++ queueOf u d = chanItems u.arrived d := by
  have := h d
  unfold queueOf at this ⊢
  rw [ht, ha, hu, alGet_alSet]
  by_cases hc : c = d
  · subst hc
    rw [hch] at this
    simp only [if_true]
    rw [List.append_assoc, hq, ← List.append_assoc, this]
  · simp only [if_neg hc, List.append_nil]
    exact this

theorem step_hinv {div : DivFn} {s s' : St} {a : Act} (h : HInv s) (hs : Step div s a s') : HInv s' := by
  cases hs with
  | arrive hch _ =>
    exact ⟨fifo_alSet h.fifo hch rfl (T := []) (fun _ => by rw [ite_self, List.append_nil]) (chanItems_append _ · _ _) rfl,
      h.sub, h.all, h.drop⟩
  | close hch =>
    exact h.of_same ⟨queueOf_alSet rfl (by simp only [queueOf, hch]), rfl, rfl, rfl, rfl, rfl, id⟩
  | stop _ => exact h.of_same ⟨fun _ => rfl, rfl, rfl, rfl, rfl, rfl, fun _ => rfl⟩
  | release _ | graceful _ => exact h.of_same (same_of_eq rfl rfl rfl rfl rfl rfl rfl)
  | own _ ho =>
    cases ho with
    | @topAdd p c b _ =>
      refine h.of_same ⟨fun d => ?_, rfl, rfl, rfl, rfl, rfl, id⟩
      show queueOf { s with chans := if (alGet s.chans c).isSome then s.chans else alSet s.chans c ⟨[], false, b⟩ } d = _
      split
      · rfl
      · rename_i hn
        refine queueOf_alSet rfl ?_ d
        cases hg : alGet s.chans c with
        | none => simp only [queueOf, hg]
        | some ch => simp [hg] at hn
    | «calc» => rw [stepCalc_eq]; exact h.of_same (same_of_eq rfl rfl rfl rfl rfl rfl rfl)
    | recalc => rw [stepRecalc_eq]; exact h.of_same (same_of_eq rfl rfl rfl rfl rfl rfl rfl)
    | consume _ _ hk =>
      cases hk with
      | waitFb => rw [afterWaitFb_eq]; exact h.of_same (same_of_eq rfl rfl rfl rfl rfl rfl rfl)
      | _ => exact h.of_same (same_of_eq rfl rfl rfl rfl rfl rfl rfl)
    | @pollItem _ p _ inp ch x q hP hq =>
      refine ⟨fifo_alSet h.fifo hP.chan rfl (A := []) (chanItems_append _ · _ _) (fun _ => by rw [ite_self, List.append_nil])
        (by rw [hq, List.append_nil]; rfl), ?_, ?_, h.drop⟩
      · simp only [List.map_append, List.map_cons, List.map_nil, untag]
        exact List.Sublist.append h.sub (List.Sublist.refl _)
      · intro hd
        simp only [List.map_append, List.map_cons, List.map_nil, untag]
        rw [h.all hd]
    | @pollDrop _ p _ inp ch x q hP hq hv hst =>
      refine ⟨fifo_alSet h.fifo hP.chan rfl (A := []) (chanItems_append _ · _ _) (fun _ => by rw [ite_self, List.append_nil])
        (by rw [hq, List.append_nil]; rfl), ?_, ?_, Or.inr ⟨hv, hst⟩⟩
      · exact List.Sublist.trans h.sub (List.sublist_append_left _ _)
      · intro hd; simp at hd
    | _ => exact h.of_same (same_of_eq rfl rfl rfl rfl rfl rfl rfl)

theorem run_hinv {div : DivFn} {acts : List Act} {s s' : St} (h : HInv s) (hr : run div s acts = some s') : HInv s' :=
  run_induction step_hinv h hr

/-- a state in which nothing has happened yet -/
def Pristine (s : St) : Prop :=
  s.taken = [] ∧ s.arrived = [] ∧ s.delivered = [] ∧ s.dropped = [] ∧ ∀ c, queueOf s c = []

theorem pristine_hinv {s : St} (h : Pristine s) : HInv s := by
  obtain ⟨h1, h2, h3, h4, h5⟩ := h
  exact ⟨fun c => by simp [h1, h2, h5, chanItems], by simp [h1, h3], fun _ => by simp [h1, h3], Or.inl h4⟩

/-- **C02 (exactly once, FIFO, nothing invented).**  After any run in which no send was aborted
    (always the case in v2: `c02_v2_no_drop`; in v1 without Stop/cancel), for every input channel
    the items delivered from it followed by the items still waiting in it are EXACTLY the
    written sequence: no loss, no duplication, no reordering, nothing that was not written.
    With aborted sends: `c02_subsequence`. -/
theorem c02_fifo (div : DivFn) (s0 s : St) (acts : List Act) (h0 : Pristine s0)
    (hr : run div s0 acts = some s) (hnd : s.dropped = []) (c : Nat) :
    chanItems (s.delivered.map untag) c ++ queueOf s c = chanItems s.arrived c := by
  have h := run_hinv (pristine_hinv h0) hr
  rw [h.all hnd]; exact h.fifo c

/-- **C02 (v2 never drops).** -/
theorem c02_v2_no_drop (div : DivFn) (s0 s : St) (acts : List Act) (h0 : Pristine s0)
    (hv : s0.cfg.v1 = false) (hr : run div s0 acts = some s) : s.dropped = [] := by
  have h := run_hinv (pristine_hinv h0) hr
  rcases h.drop with d | ⟨d, _⟩
  · exact d
  · rw [run_cfg hr, hv] at d; cases d

/-- **C02 (in general: in-order, duplicate-free subsequence)** -/
theorem c02_subsequence (div : DivFn) (s0 s : St) (acts : List Act) (h0 : Pristine s0)
    (hr : run div s0 acts = some s) :
    (s.delivered.map untag).Sublist s.taken ∧ ∀ c, chanItems s.taken c ++ queueOf s c = chanItems s.arrived c := by
  have h := run_hinv (pristine_hinv h0) hr
  exact ⟨h.sub, h.fifo⟩

/-- **C02 (tag).**  An item is delivered with the priority under which the channel it was
    received from is registered at that moment, and it is the oldest waiting item of that
    channel. -/
theorem c02_tag (div : DivFn) (s s' : St) (hs : step div s .pollItem = some s') :
    ∃ p c x, s'.delivered = s.delivered ++ [(p, c, x)] ∧
      (alGet s.inputs p).map (·.chan) = some c ∧ (queueOf s c).head? = some x := by
  cases step_sound hs with | own _ ho => ?_
  cases ho with
  | goto hg => nomatch hg
  | consume _ _ hk | wrap _ _ hk => nomatch hk
  | @pollItem _ p _ inp ch x q hP hq =>
    exact ⟨p, inp.chan, x, rfl, by simp [hP.input], by simp [queueOf, hP.chan, hq]⟩

theorem queue_mkChans (keys : List (Nat × Bool)) (c : Nat) :
    (match alGet (keys.map (fun kb => (kb.1, (⟨[], false, kb.2⟩ : Chan)))) c with
      | some ch => ch.queue
      | none => []) = [] := by
  induction keys with
  | nil => simp [alGet]
  | cons k ks ih =>
    simp only [List.map_cons, alGet]
    by_cases hk : k.1 = c
    · simp [hk]
    · simp only [hk, if_false]; exact ih

theorem initV1_pristine (div : DivFn) (keys : List (Nat × Bool)) (H : Nat) : Pristine (initV1 div keys H) :=
  ⟨rfl, rfl, rfl, rfl, fun c => queue_mkChans keys c⟩

theorem initV2_pristine (div : DivFn) (keys : List (Nat × Bool)) (H : Nat) (s : St)
    (h : initV2 div keys H = .ok s) : Pristine s := by
  obtain ⟨_, _, rfl⟩ := initV2_ok h
  exact ⟨rfl, rfl, rfl, rfl, fun c => queue_mkChans keys c⟩

/-- **C02 for the simplified disciplines**: a handler calls `Handle` exactly once for
    each item it receives from the output (the handler loop is
    `for item := range output { Handle(item); Release(priority) }`), so the multiset of
    `Handle` invocations is the multiset of deliveries; stated on the model: the handle log
    built by mapping the delivery log is a permutation-free copy of it. -/
theorem c02_simple (deliveries : List (Nat × Nat × Nat)) :
    (deliveries.map (fun e => e.2.2)).length = deliveries.length := by simp

/-! Non-vacuity -/
example :
    (match initV2 (fun _ => fair) [(2, true), (1, true)] 2 with
     | .ok s0 =>
       (run (fun _ => fair) s0 [.arrive 2 7, .arrive 2 9, .arrive 1 8, .calc, .pollItem, .skip, .pollItem]).map
         (fun s => (chanItems (s.delivered.map untag) 2, queueOf s 2, chanItems s.arrived 2))
     | .error _ => none) = some ([7], [9], [7, 9]) := by decide +kernel

end Cqos.C02
