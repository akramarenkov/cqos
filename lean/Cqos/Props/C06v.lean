import Cqos.Props.C06e
/-
  C06 for v1, the clause "when nothing is in flight and some input has data, an item is delivered
  without any release being needed".

  v1 differs from v2 in what can be assumed of a reachable state: priorities, shares and channels
  change with every AddInput / RemoveInput, nothing checks the shares (finding F1), and two
  priorities may have been given the same channel.  So the facts v2 gets from its constructor
  are hypotheses here, stated of the state in question:

    * the shares in force add up to `H`                       (C14: the library's dividers)
    * THE PRIORITY CONCERNED has a share of at least one      (F1 is exactly its failure)
    * no other registered priority reads from the same channel

  The machine lets a poll action deliver whether or not Stop() has been called meanwhile — Go's
  `select` may take either case; the continuation exhibited here is the one a discipline that was
  not stopped is bound to take.

  The file also says which of the custom dividers of the correspondence runs (`Divider.lean`)
  meets the hypothesis of `c06_deliverable`: `lowfirst` does (`sumRule_lowfirst`), `quota` does not.
-/
namespace Cqos.C06

/-- **C06 (v1, about to compute a round with nothing in flight).**  After ANY run of a v1
    discipline — arrivals, feedbacks, AddInput / RemoveInput in any order — the item at the head of
    the channel of a registered, undrained priority that has a share and whose channel no other
    priority reads is delivered, tagged with that priority, by the discipline's own steps alone:
    `calcTactic` and at most `H + n` poll actions. -/
theorem c06_idle_delivers_v1_calc (div : DivFn) (keys : List (Nat × Bool)) (H : Nat) (hH : 0 < H)
    (hnd : (keys.map (·.1)).Nodup) (s : St) (acts : List Act) (hr : run div (initV1 div keys H) acts = some s)
    (hpc : s.pc = .calc) (hidle : s.actual.total = 0)
    (hsum : sumOver s.prios s.strategic = H)
    (p : Nat) (inp : Input) (hin : alGet s.inputs p = some inp) (hud : inp.drained = false)
    (hshare : 1 ≤ s.strategic.get p)
    (halone : ∀ q' inp', alGet s.inputs q' = some inp' → q' ≠ p → inp'.chan ≠ inp.chan)
    (ch : Chan) (x : Nat) (q : List Nat) (hch : alGet s.chans inp.chan = some ch) (hq : ch.queue = x :: q) :
    ∃ acts' s', run div s (.calc :: acts') = some s' ∧
      (∃ dl, s'.delivered = s.delivered ++ dl ∧ (p, inp.chan, x) ∈ dl) ∧
      acts'.length ≤ H + s.prios.length ∧ (∀ a ∈ acts', isOwn a = true) := by
  obtain ⟨ht, hinv, hwf, hcfg⟩ := C07.reach_initV1 hnd hr
  have hHs : s.cfg.H = H := by rw [hcfg]; rfl
  have := idle_delivers div s hinv hwf ht.chansOK hpc hidle (by rw [hHs]; exact hsum) (by rw [hHs]; exact hH)
    p inp hin hud hshare halone ch x q hch hq
  rwa [hHs] at this

/-- **C06 (v1: nothing in flight, an input has data ⇒ its head item is delivered, no feedback
    needed).**  The same from the loop top: the `select` takes its default case (no command, no
    feedback is waiting for a discipline with nothing in flight), `clearActual`, then the round. -/
theorem c06_idle_delivers_v1 (div : DivFn) (keys : List (Nat × Bool)) (H : Nat) (hH : 0 < H)
    (hnd : (keys.map (·.1)).Nodup) (s : St) (acts : List Act) (hr : run div (initV1 div keys H) acts = some s)
    (hpc : s.pc = .top) (hidle : s.actual.total = 0)
    (hsum : sumOver s.prios s.strategic = H)
    (p : Nat) (inp : Input) (hin : alGet s.inputs p = some inp) (hud : inp.drained = false)
    (hshare : 1 ≤ s.strategic.get p)
    (halone : ∀ q' inp', alGet s.inputs q' = some inp' → q' ≠ p → inp'.chan ≠ inp.chan)
    (ch : Chan) (x : Nat) (q : List Nat) (hch : alGet s.chans inp.chan = some ch) (hq : ch.queue = x :: q) :
    ∃ acts' s', run div s (.top .none :: .calc :: acts') = some s' ∧
      (∃ dl, s'.delivered = s.delivered ++ dl ∧ (p, inp.chan, x) ∈ dl) ∧
      acts'.length ≤ H + s.prios.length ∧ (∀ a ∈ acts', isOwn a = true) := by
  obtain ⟨_, _, _, hcfg⟩ := C07.reach_initV1 hnd hr
  have hstep : Step div s (.top .none) (afterTop s) := .own hpc (.topNone (by rw [hcfg]; rfl))
  have hr1 : run div (initV1 div keys H) (acts ++ [.top .none]) = some (afterTop s) :=
    run_append_iff.2 ⟨s, hr, run_cons_iff.2 ⟨_, hstep, rfl⟩⟩
  have hidle1 : (afterTop s).actual.total = 0 := by
    show (clearActual s.inputs s.actual).total = 0
    rw [total_clearActual]; exact hidle
  obtain ⟨acts', s', hr', hd', hl', ho'⟩ := c06_idle_delivers_v1_calc div keys H hH hnd (afterTop s) _ hr1 rfl hidle1
    hsum p inp hin hud hshare halone ch x q hch hq
  exact ⟨acts', s', run_cons_iff.2 ⟨_, hstep, hr'⟩, hd', hl', ho'⟩

/-- the hypotheses are satisfiable (priorities 2 and 1, two handlers, Fair; an item on the input of
    priority 1) and the conclusion is what the machine does: the item is delivered under priority 1 -/
example :
    (run C07.f1div (initV1 C07.f1div [(2, true), (1, true)] 2)
      [.arrive 1 7, .top .none, .calc, .pollEmpty, .pollItem]).map (fun s => s.delivered) = some [(1, 1, 7)] := by decide +kernel

theorem conserves_lowfirst : Conserves lowfirst := fun ps d m => by
  unfold lowfirst
  split
  · rename_i h; rw [List.getLast?_eq_none_iff.1 h]; rfl
  · rename_i hl
    have hne : ps ≠ [] := by intro h; subst h; simp at hl
    split
    · subst d; simp
    · rw [conserves_fair, Dist.total_add, if_neg hne]; omega

/-- the custom divider `lowfirst` of the correspondence runs conserves the dividend (it is
    contract-abiding: the constructor must judge its distributions by their content), … -/
theorem sumRule_lowfirst : SumRule (fun _ => lowfirst) := sumRule_of_conserves conserves_lowfirst

/-- … while `quota` does not (two priorities, dividend 1: two units are added): the helpers must
    still answer by what it gives, and the constructor rejects it as faulty -/
example : (quota [2, 1] 1 []).total = 2 := by decide

end Cqos.C06
