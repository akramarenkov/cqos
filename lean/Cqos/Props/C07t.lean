import Cqos.Props.C06e
import Cqos.Props.C07p
/-
  Property C07 / C06, liveness in the angelic form: from EVERY state a v2 discipline can reach
  (divider obeying the sum rule) some continuation that consists only of handlers releasing what
  they hold and of the discipline's own steps

  * reaches a state in which everything written so far has been delivered, released and
    accounted for: no registered undrained input has anything queued, nothing is in flight,
    no release is unread (`c07_quiescible`);
  * and, when every registered input has been closed, goes on to `done`: termination stays
    reachable (`c07_terminable`) — the discipline cannot get stuck short of terminating
    "when its inputs are drained and all items released".
-/
namespace Cqos.C07
open Cqos.C06

/-- what a step of the continuation (a release or an own action) does to channels and deliveries -/
theorem step_chans (div : DivFn) (s s' : St) (a : Act) (hv : s.cfg.v1 = false)
    (hok : isOwn a = true ∨ ∃ r, a = .release r) (hs : step div s a = some s') :
    (s'.chans = s.chans ∧ s'.delivered = s.delivered) ∨
    (∃ p inp ch x q, alGet s.inputs p = some inp ∧ alGet s.chans inp.chan = some ch ∧ ch.queue = x :: q ∧
      s'.chans = alSet s.chans inp.chan { ch with queue := q } ∧ s'.delivered = s.delivered ++ [(p, inp.chan, x)]) := by
  cases step_delivery (step_sound hs) with
  | item p inp ch x q hP hq hd _ hc => exact .inr ⟨p, inp, ch, x, q, hP.input, hP.chan, hq, hc, hd⟩
  | other hd _ _ hc =>
    rcases hc with hc | ⟨c, x, rfl⟩ | ⟨c, rfl⟩ | ⟨hv', _⟩
    · exact .inl ⟨hc, hd⟩
    · rcases hok with h | ⟨r, h⟩ <;> cases h
    · rcases hok with h | ⟨r, h⟩ <;> cases h
    · rw [hv] at hv'; cases hv'

/-- along a continuation: every delivery takes one item out of the channels, nothing is added, and
    a closed channel stays closed -/
theorem chans_run (div : DivFn) : ∀ (acts : List Act) (u u' : St), u.cfg.v1 = false →
    (∀ a ∈ acts, isOwn a = true ∨ ∃ r, a = .release r) → run div u acts = some u' →
    (∃ dl, u'.delivered = u.delivered ++ dl ∧ qs u'.chans + dl.length = qs u.chans) ∧
    (∀ c ch, alGet u.chans c = some ch → ch.closed = true → ∃ ch', alGet u'.chans c = some ch' ∧ ch'.closed = true) := by
  intro acts
  induction acts with
  | nil =>
    intro u u' _ _ hr; cases hr
    exact ⟨⟨[], by simp, by simp⟩, fun c ch h1 h2 => ⟨ch, h1, h2⟩⟩
  | cons a as ih =>
    intro u u' hv hok hr
    obtain ⟨u1, hu1, hr⟩ := run_cons_iff.1 hr
    obtain ⟨⟨dl, hdl, hqs⟩, hcl⟩ := ih u1 u' (by rw [hu1.cfg_eq]; exact hv) (fun b hb => hok b (List.mem_cons_of_mem _ hb)) hr
    rcases step_chans div u u1 a hv (hok a (List.mem_cons_self ..)) hu1.step_eq with
      ⟨e1, e2⟩ | ⟨p, inp, ch, x, q, _, hch, hq, e1, e2⟩
    · refine ⟨⟨dl, by rw [hdl, e2], by rw [hqs, e1]⟩, ?_⟩
      intro c ch h1 h2
      exact hcl c ch (by rw [e1]; exact h1) h2
    · refine ⟨⟨(p, inp.chan, x) :: dl, by rw [hdl, e2]; simp, ?_⟩, ?_⟩
      · have := qs_alSet u.chans inp.chan ch { ch with queue := q } hch
        rw [hq] at this
        simp only [List.length_cons] at this ⊢
        rw [e1] at hqs
        omega
      · intro c ch0 h1 h2
        by_cases hcc : inp.chan = c
        · subst hcc
          rw [hch] at h1; cases h1
          exact hcl inp.chan { ch with queue := q } (by rw [e1, alGet_alSet]; simp) h2
        · exact hcl c ch0 (by rw [e1, alGet_alSet]; simp [hcc, h1]) h2

/-- no registered undrained input has anything queued -/
def Empty (s : St) : Prop :=
  ∀ p inp, alGet s.inputs p = some inp → inp.drained = false → ∀ ch, alGet s.chans inp.chan = some ch → ch.queue = []

/-- one step towards quiescence when nothing is queued: release, or let the discipline read -/
theorem quiesce_step (div : DivFn) (hg : SumRule div) (s0 s : St) (F : Facts s0 s) (hfb : s.cfg.fbLimit ≠ 0)
    (he : Empty s) (hnq : ¬ (s.inflight.total = 0 ∧ s.pending = [])) :
    ∃ a s1, step div s a = some s1 ∧ okAct a ∧ s1.delivered = s.delivered ∧ Empty s1 ∧ Less s1 s := by
  obtain ⟨a, s1, hs, hok, hless, hm⟩ := angel_step div hg s0 s F hfb (fun h => hnq ⟨h.1, h.2.1⟩)
  refine ⟨a, s1, hs.step_eq, hok, ?_⟩
  cases hm with
  | ctrl hi hc hd => exact ⟨hd, fun p inp h1 h2 ch h3 => he p inp (hi ▸ h1) h2 ch (hc ▸ h3), hless⟩
  | closed q inp ch hP hq hcl hi hc hd =>
    refine ⟨hd, fun p inp' h1 h2 ch' h3 => ?_, hless⟩
    rw [hi, alGet_alSet] at h1
    split at h1
    · cases h1; cases h2
    · exact he p inp' h1 h2 ch' (hc ▸ h3)
  | item q inp ch x r hP hq =>
    -- nothing is queued, so nothing can be delivered
    have := he q inp hP.input hP.undrained ch hP.chan
    rw [hq] at this; cases this

/-- **C07 / C06 (quiescence is reachable).** After ANY run of a v2 discipline with a divider obeying
    the sum rule, some continuation of releases and own steps reaches a state in which no registered
    undrained input has anything queued, nothing is in flight and no release is unread: everything
    written so far has been delivered, released and accounted for. -/
theorem c07_quiescible (div : DivFn) (hg : SumRule div) (keys : List (Nat × Bool)) (H : Nat) (hH : 0 < H)
    (hnd : (keys.map (·.1)).Nodup) (s0 : St) (h0 : initV2 div keys H = .ok s0)
    (hsum : sumOver s0.prios s0.strategic = H) :
    ∀ (n : Nat) (s : St) (acts : List Act), run div s0 acts = some s → qsum s ≤ n →
      ∃ acts' s', run div s acts' = some s' ∧ (∀ a ∈ acts', okAct a) ∧ Empty s' ∧
        s'.inflight.total = 0 ∧ s'.pending = [] := by
  -- while the state is not yet quiescent some continuation goes down in `Less`: with something
  -- queued an item is delivered (`c06_deliverable`), with nothing queued `quiesce_step` applies
  have key : ∀ s acts, run div s0 acts = some s → ∃ acts' s', run div s acts' = some s' ∧ (∀ a ∈ acts', okAct a) ∧
      Empty s' ∧ s'.inflight.total = 0 ∧ s'.pending = [] := by
    intro s
    induction s using less_wf.induction with
    | _ s ih =>
      intro acts hr
      by_cases hD : Empty s ∧ s.inflight.total = 0 ∧ s.pending = []
      · exact ⟨[], s, rfl, (fun _ h => nomatch h), hD⟩
      · have F := reach_facts div hg keys H hH hnd s0 s acts h0 hsum hr
        have next : ∃ acts1 s1, run div s acts1 = some s1 ∧ (∀ a ∈ acts1, okAct a) ∧ Less s1 s := by
          by_cases hq : ∃ p inp ch x q, alGet s.inputs p = some inp ∧ inp.drained = false ∧
              alGet s.chans inp.chan = some ch ∧ ch.queue = x :: q
          · obtain ⟨p, inp, ch, x, q, hin, hud, hch, hq⟩ := hq
            obtain ⟨acts1, s1, hr1, ⟨dl, hdl, hmem⟩, hok1⟩ :=
              c06_deliverable div hg keys H hH hnd s0 s acts h0 hsum hr p inp hin hud ch x q hch hq
            obtain ⟨⟨dl', hdl', hqs⟩, _⟩ := chans_run div acts1 s s1 F.v2 hok1 hr1
            cases List.append_cancel_left (hdl'.symm.trans hdl)
            have hpos : 0 < dl.length := List.length_pos_of_mem hmem
            exact ⟨acts1, s1, hr1, hok1, .inl (by simp only [qsum]; omega)⟩
          · have he : Empty s := fun p inp hin hud ch hch => by
              cases hc : ch.queue with
              | nil => rfl
              | cons x q => exact absurd ⟨p, inp, ch, x, q, hin, hud, hch, hc⟩ hq
            have hfb : s.cfg.fbLimit ≠ 0 := by rw [F.cfg]; exact fbLimit_ne_zero div keys H hH s0 h0 hsum
            obtain ⟨a, s1, hs, hok, _, _, hless⟩ := quiesce_step div hg s0 s F hfb he (fun h => hD ⟨he, h⟩)
            exact ⟨[a], s1, run_cons_iff.2 ⟨s1, step_sound hs, rfl⟩, List.forall_mem_singleton.2 hok, hless⟩
        obtain ⟨acts1, s1, hr1, ho1, hless⟩ := next
        obtain ⟨acts2, s2, hr2, ho2, hD2⟩ := ih s1 hless (acts ++ acts1) (run_append_iff.2 ⟨s, hr, hr1⟩)
        exact ⟨acts1 ++ acts2, s2, run_append_iff.2 ⟨s1, hr1, hr2⟩, List.forall_mem_append.2 ⟨ho1, ho2⟩, hD2⟩
  exact fun _ s acts hr _ => key s acts hr

theorem promptAct_own (s : St) : isOwn (promptAct s) = true := by
  unfold promptAct
  cases s.pc with
  | prio ph rest =>
    cases rest with
    | nil => simp only; split <;> rfl
    | cons q r =>
      simp only
      split
      · rfl
      · split <;> rfl
  | _ => rfl

theorem promptRun_run (div : DivFn) (n : Nat) (s : St) : ∃ acts, run div s acts = some (promptRun div n s) ∧
    ∀ a ∈ acts, isOwn a = true := by
  obtain ⟨acts, hr, ho⟩ := Iterates.is_run (act := fun s => some (promptAct s)) (promptRun_iterates div) n s
  exact ⟨acts, hr, fun a ha => by obtain ⟨t, e⟩ := ho a ha; cases e; exact promptAct_own t⟩

/-- **C07 (termination stays reachable).** After ANY run of a v2 discipline with a divider obeying
    the sum rule: once every registered input has been closed, some continuation of handlers'
    releases and of the discipline's own steps ends in `done` — whatever was queued, in flight or
    unread at that moment. -/
theorem c07_terminable (div : DivFn) (hg : SumRule div) (keys : List (Nat × Bool)) (H : Nat) (hH : 0 < H)
    (hnd : (keys.map (·.1)).Nodup) (s0 s : St) (acts : List Act) (h0 : initV2 div keys H = .ok s0)
    (hsum : sumOver s0.prios s0.strategic = H) (hr : run div s0 acts = some s)
    (hclosed : ∀ p inp, alGet s.inputs p = some inp → ∃ ch, alGet s.chans inp.chan = some ch ∧ ch.closed = true) :
    ∃ acts' s', run div s acts' = some s' ∧ (∀ a ∈ acts', isOwn a = true ∨ ∃ r, a = .release r) ∧ ∃ e, s'.pc = .done e := by
  obtain ⟨acts1, s1, hr1, ho1, he1, hfl1, hpe1⟩ :=
    c07_quiescible div hg keys H hH hnd s0 h0 hsum (qsum s) s acts hr (Nat.le_refl _)
  have hr01 : run div s0 (acts ++ acts1) = some s1 := run_append_iff.2 ⟨s, hr, hr1⟩
  have F := reach_facts div hg keys H hH hnd s0 s acts h0 hsum hr
  have F1 := reach_facts div hg keys H hH hnd s0 s1 (acts ++ acts1) h0 hsum hr01
  obtain ⟨_, hcl⟩ := chans_run div acts1 s s1 F.v2 ho1 hr1
  have hce : ∀ p inp, alGet s1.inputs p = some inp →
      ∃ ch, alGet s1.chans inp.chan = some ch ∧ ch.closed = true ∧ ch.queue = [] := by
    intro p inp hin1
    cases hdr : inp.drained with
    | true => exact F1.ht.drained p inp hin1 hdr
    | false =>
      -- `p` was registered in `s` as well, with the same channel
      have hmem : p ∈ s.prios := by
        rw [F.prios, ← F1.prios]; exact (F1.hwf.regs p).2 (by rw [hin1]; rfl)
      have hreg := (F.hwf.regs p).1 hmem
      cases hin : alGet s.inputs p with
      | none => rw [hin] at hreg; cases hreg
      | some inp0 =>
        obtain ⟨ch0, hch0, hcl0⟩ := hclosed p inp0 hin
        have e0 : inp0.chan = p := F.own p inp0 hin
        have e1 : inp.chan = p := F1.own p inp hin1
        obtain ⟨ch1, hch1, hcl1⟩ := hcl inp0.chan ch0 hch0 hcl0
        rw [e0] at hch1
        exact ⟨ch1, by rw [e1]; exact hch1, hcl1, he1 p inp hin1 hdr ch1 (by rw [e1]; exact hch1)⟩
  obtain ⟨_, e, he⟩ := c07_prompt_reachable div keys H hH hnd s0 s1 (acts ++ acts1) h0 hsum hr01 hce hfl1 hpe1
  obtain ⟨acts2, hr2, ho2⟩ := promptRun_run div (5 * s1.prios.length + 12) s1
  exact ⟨acts1 ++ acts2, _, run_append_iff.2 ⟨s1, hr1, hr2⟩, List.forall_mem_append.2 ⟨ho1, fun a h => .inl (ho2 a h)⟩, e, he⟩

end Cqos.C07
