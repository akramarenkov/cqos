import Cqos.Lemmas.JoinStep
import Cqos.Rate
/-
  Property C10 — buffered elements are flushed within Timeout plus inaccuracy.

  What `calcInterruptInterval` guarantees about the ticker period; the timer is NOT reset per
  element (while the buffer is non-empty `passAt` is no later than `firstAt`, the reading at
  which the oldest buffered element was accepted); hence a ticker firing processed at a reading
  `t ≥ firstAt + Timeout` flushes the buffer — for action lists whose clock readings do not
  decrease.
-/
namespace Cqos.C10

/-- what both versions have established when they reach their last test -/
theorem interval_quot {timeout : Int} {inacc : Nat} (hpos : 0 < timeout) (hd : 100 / inacc ≠ 0) :
    0 ≤ timeout / ((100 / inacc : Nat) : Int) ∧
    timeout / ((100 / inacc : Nat) : Int) * ((100 / inacc : Nat) : Int) ≤ timeout ∧
    1 ≤ 100 / inacc ∧ 100 / inacc ≤ 100 :=
  have hdi : (0 : Int) < ((100 / inacc : Nat) : Int) := Int.natCast_pos.2 (Nat.pos_of_ne_zero hd)
  ⟨Int.ediv_nonneg (Int.le_of_lt hpos) (Int.le_of_lt hdi), Int.ediv_mul_le timeout (Int.ne_of_gt hdi),
    Nat.pos_of_ne_zero hd, Nat.div_le_self _ _⟩

/-- **C10 (ticker period, v2).** For a positive `Timeout` the period `τ` that
    `calcInterruptInterval` returns is at least `1` and `τ·d ≤ Timeout` with
    `d = ⌊100 / inaccuracy⌋`, `1 ≤ d ≤ 100`. -/
theorem c10_interval_v2 (timeout : Int) (inacc : Nat) (τ : Int)
    (h : calcInterruptIntervalV2 timeout inacc = .ok τ) (hpos : 0 < timeout) :
    1 ≤ τ ∧ τ * ((100 / inacc : Nat) : Int) ≤ timeout ∧ 1 ≤ 100 / inacc ∧ 100 / inacc ≤ 100 ∧ 1 ≤ inacc := by
  unfold calcInterruptIntervalV2 at h
  simp only [Int.not_le.2 hpos, if_false] at h
  split at h
  · cases h
  · rename_i hi
    split at h
    · cases h
    · rename_i hd
      split at h
      · cases h
      · rename_i hz
        cases h
        obtain ⟨hnn, hmul, h1, h2⟩ := interval_quot hpos hd
        exact ⟨Int.lt_iff_le_and_ne.2 ⟨hnn, Ne.symm hz⟩, hmul, h1, h2, Nat.pos_of_ne_zero hi⟩

/-- **C10 (no timeout, v2).** `Timeout ≤ 0` gives the period `0`: the discipline runs untimed. -/
theorem c10_interval_v2_nonpositive (timeout : Int) (inacc : Nat) (h : timeout ≤ 0) :
    calcInterruptIntervalV2 timeout inacc = .ok 0 := by simp [calcInterruptIntervalV2, h]

/-- **C10 (errors, v2).** An inaccuracy of `0` and one above `100` are rejected, as in the code. -/
theorem c10_interval_v2_errors (timeout : Int) (inacc : Nat) (hpos : 0 < timeout) :
    (inacc = 0 → calcInterruptIntervalV2 timeout inacc = .error .inaccuracyZero) ∧
    (100 < inacc → calcInterruptIntervalV2 timeout inacc = .error .inaccuracyTooBig) := by
  have hnp : ¬ timeout ≤ 0 := by omega
  constructor
  · intro h; simp [calcInterruptIntervalV2, hnp, h]
  · intro h
    have h0 : inacc ≠ 0 := by omega
    have hd : 100 / inacc = 0 := Nat.div_eq_of_lt h
    simp [calcInterruptIntervalV2, hnp, h0, hd]

/-- **C10 (ticker period, v1).** As for v2, and the period is at least the reliably measurable
    duration (10 ms). -/
theorem c10_interval_v1 (timeout : Int) (inacc : Nat) (τ : Int)
    (h : calcInterruptIntervalV1 timeout inacc = .ok τ) (hpos : 0 < timeout) :
    10000000 ≤ τ ∧ τ * ((100 / inacc : Nat) : Int) ≤ timeout ∧ 1 ≤ 100 / inacc ∧ 100 / inacc ≤ 100 := by
  unfold calcInterruptIntervalV1 at h
  simp only [Int.not_le.2 hpos, if_false] at h
  split at h
  · cases h
  · split at h
    · cases h
    · rename_i hd
      split at h
      · cases h
      · rename_i hz
        cases h
        obtain ⟨_, hmul, h1, h2⟩ := interval_quot hpos hd
        exact ⟨Int.not_lt.1 hz, hmul, h1, h2⟩

/-- `passAt` is in the past, and not later than the acceptance of the oldest buffered element -/
structure FInv (s : JSt) (now : Nat) : Prop where
  past : s.passAt ≤ now
  oldest : s.pc = .run → s.buf ≠ [] → s.passAt ≤ s.firstAt ∧ s.firstAt ≤ now

theorem f_mono {s : JSt} {now t : Nat} (h : FInv s now) (ht : now ≤ t) : FInv s t :=
  ⟨Nat.le_trans h.past ht, fun hr hb => ⟨(h.oldest hr hb).1, Nat.le_trans (h.oldest hr hb).2 ht⟩⟩

theorem f_jpass {s : JSt} {now t : Nat} (h : FInv s now) (ht : now ≤ t) (tk : Bool) (nx : Option (Nat × List Nat)) :
    FInv (jpass s t tk nx) t := by
  rcases jpass_cases s t tk nx with ⟨hb, e⟩ | ⟨_, _, e⟩ | ⟨_, _, e⟩ <;> rw [e]
  · exact ⟨Nat.le_refl _, fun _ hb' => absurd hb hb'⟩
  · exact ⟨Nat.le_refl _, fun _ hb' => absurd rfl hb'⟩
  · exact ⟨Nat.le_trans h.past ht, fun hr => by cases hr⟩

/-- the timer is not restarted by an element: `firstAt` is set only when the buffer was empty -/
theorem f_appendPath {s : JSt} {now t : Nat} (h : FInv s now) (ht : now ≤ t) (xs : List Nat) :
    FInv (jappendPath s xs t) t := by
  have happ : FInv (jappend s xs t) t := by
    refine ⟨Nat.le_trans h.past ht, fun hrun _ => ?_⟩
    by_cases hb : s.buf = []
    · simp only [jappend, hb, if_true]; exact ⟨Nat.le_trans h.past ht, Nat.le_refl _⟩
    · simp only [jappend, hb, if_false]
      have := h.oldest hrun hb
      exact ⟨this.1, Nat.le_trans this.2 ht⟩
  rw [jappendPath_eq]
  split
  · exact happ
  · exact f_jpass happ (Nat.le_refl _) false none

theorem f_cont {s : JSt} {now t : Nat} {xs : List Nat} (h : FInv s now) (ht : now ≤ t)
    (hfit : Fits s xs) (id : Nat) : FInv (jcont (jlog s xs) id xs t) t := by
  by_cases hbig : s.cfg.size ≤ xs.length
  · cases hc : s.cfg.noCopy with
    | true =>
      rw [jtake_big_nocopy id t hbig hc]
      exact ⟨Nat.le_refl _, fun hr => by cases hr⟩
    | false =>
      rw [jtake_big_copy id t hbig hc]
      exact ⟨Nat.le_refl _, fun _ hb' => absurd (hfit.1 hbig) hb'⟩
  · rw [jtake_small id t (Nat.not_le.1 hbig)]
    exact f_appendPath (s := jlog s xs) ⟨h.past, h.oldest⟩ ht xs

/-- the clock reading attached to an action (`stop` reads no clock) -/
def clockOf : JAct → Option Nat
  | .item _ _ t => some t | .tick t => some t | .close t => some t | .release t => some t
  | .stopSeen t => some t | .stopFlush t => some t | .stop => none

/-- **One step keeps `FInv`** (`passAt` is not later than the acceptance of the oldest buffered
    element) when its clock reading is not in the past. -/
theorem f_step (s s' : JSt) (a : JAct) (now : Nat) (h : FInv s now)
    (hclk : ∀ t, clockOf a = some t → now ≤ t) (hs : JStep s a s') :
    FInv s' ((clockOf a).getD now) := by
  have hrel : ∀ t, FInv (jrelease s t) t := fun t => ⟨Nat.le_refl _, fun _ hb => absurd rfl hb⟩
  cases hs with
  | skip | idle => exact f_mono h (hclk _ rfl)
  | join => exact f_appendPath (s := jlog s _) ⟨h.past, h.oldest⟩ (hclk _ rfl) _
  | hold | tick => exact f_jpass h (hclk _ rfl) _ _
  | @flush _ xs t _ _ _ hb hc =>
    have h1 := f_jpass h (hclk t rfl) false none
    rw [jpass_copy_eq s t false none hb hc] at h1 ⊢
    exact f_cont h1 (Nat.le_refl _) (Fits.of_nil rfl xs) _
  | take _ _ hf => exact f_cont h (hclk _ rfl) hf _
  | @closeHold t =>
    have h1 := f_jpass h (hclk t rfl) false none
    exact ⟨h1.past, h1.oldest⟩
  | @closeDone t | @stopFlush t =>
    exact ⟨(f_jpass h (hclk t rfl) false none).past, fun hr => by cases hr⟩
  | release => exact hrel _
  | @resume _ xs t => exact f_cont (hrel t) (Nat.le_refl _) (Fits.of_nil rfl xs) _
  | stop => exact ⟨h.past, h.oldest⟩
  | stopRun => exact ⟨Nat.le_refl _, fun hr => by cases hr⟩
  | stopAwait => exact ⟨Nat.le_trans h.past (hclk _ rfl), fun hr => by cases hr⟩

/-- a run whose clock readings never decrease, starting at reading `now` -/
def monoRun : JSt → Nat → List JAct → Option (JSt × Nat)
  | s, now, [] => some (s, now)
  | s, now, a :: as =>
    match clockOf a with
    | some t => if now ≤ t then (match jstep s a with | some s' => monoRun s' t as | none => none) else none
    | none => (match jstep s a with | some s' => monoRun s' now as | none => none)

theorem monoRun_induction {I : JSt → Nat → Prop}
    (hstep : ∀ {s a s' now}, I s now → (∀ t, clockOf a = some t → now ≤ t) → JStep s a s' →
      I s' ((clockOf a).getD now)) :
    ∀ {acts : List JAct} {s s' : JSt} {now now' : Nat}, I s now → monoRun s now acts = some (s', now') →
      I s' now'
  | [], _, _, _, _, h, hr => by cases hr; exact h
  | a :: as, s, s', now, now', h, hr => by
    simp only [monoRun] at hr
    split at hr
    · rename_i hc
      split at hr
      · rename_i hle
        split at hr
        · rename_i hs1
          have := hstep h (fun t' ht' => by rw [hc] at ht'; cases ht'; exact hle) (.of_jstep hs1)
          rw [hc] at this
          exact monoRun_induction hstep this hr
        · cases hr
      · cases hr
    · rename_i hc
      split at hr
      · rename_i hs1
        have := hstep h (fun t' ht' => by rw [hc] at ht'; cases ht') (.of_jstep hs1)
        rw [hc] at this
        exact monoRun_induction hstep this hr
      · cases hr

theorem f_run (acts : List JAct) (s s' : JSt) (now now' : Nat) (h : FInv s now)
    (hr : monoRun s now acts = some (s', now')) : FInv s' now' :=
  monoRun_induction (I := FInv) (fun hu hclk hs => f_step _ _ _ _ hu hclk hs) h hr

/-- **C10 (the timer is not reset per element).** Along any run with a monotone clock:
    while elements are buffered, `passAt` is not later than the reading at which the oldest
    of them was accepted. -/
theorem c10_passAt_le_oldest (cfg : JCfg) (t0 : Nat) (acts : List JAct) (s : JSt) (now : Nat)
    (hr : monoRun (jinit cfg t0) t0 acts = some (s, now)) (hrun : s.pc = .run) (hb : s.buf ≠ []) :
    s.passAt ≤ s.firstAt ∧ s.firstAt ≤ now :=
  (f_run acts _ s t0 now ⟨by simp [jinit], fun _ hb' => by simp [jinit] at hb'⟩ hr).oldest hrun hb

/-- **C10 (flush).** A ticker firing processed at a reading `t` with
    `t ≥ firstAt + Timeout` (the oldest buffered element has waited for `Timeout`) empties the
    buffer: it is written to the output (copy mode: at once; no-copy: handed out, awaiting
    release). -/
theorem c10_flush (cfg : JCfg) (t0 : Nat) (hsz : 0 < cfg.size) (acts : List JAct) (s : JSt) (now t : Nat)
    (hr : monoRun (jinit cfg t0) t0 acts = some (s, now)) (hrun : s.pc = .run) (hb : s.buf ≠ [])
    (hto : s.cfg.timeout ≠ 0) (hwait : s.firstAt + s.cfg.timeout ≤ t) :
    ∃ s', jstep s (.tick t) = some s' ∧ s'.out = s.out ++ [s.buf] := by
  have hp := (c10_passAt_le_oldest cfg t0 acts s now hr hrun hb).1
  have hge : s.cfg.timeout ≤ t - s.passAt := by omega
  exact ⟨jpass s t true none, jstep_tick hrun hto hge, by rw [jpass_out, if_neg hb]⟩

/-! Non-vacuity: a slow trickle (one element every 40, Timeout 100): the second tick flushes
    although elements kept arriving. -/
example :
    (monoRun (jinit ⟨.join, 10, 100, false, false⟩ 0) 0
      [.item 1 [1] 10, .tick 30, .item 2 [2] 50, .tick 60, .item 3 [3] 90, .tick 95, .tick 125]).map
      (fun r => (r.1.out, r.1.buf)) = some ([[1, 2, 3]], []) := by decide +kernel

end Cqos.C10
