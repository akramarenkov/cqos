import Cqos.Props.C06i
import Cqos.Props.C14
/-
  Property C06, first clause: "If handlers eventually release every item they receive, every item
  written to any input is eventually delivered, for every pattern of arrivals and every order
  of releases."

  What a theorem about the machine can say of an eventuality is that no reachable state is
  doomed (`c06_deliverable`).  With fair scheduling (every enabled step of the discipline is
  eventually taken, every held item is eventually released) this is the eventuality itself;
  fairness of the Go scheduler is not modelled.

  Proof: a scheduler for the angelic continuation (release whatever is in flight; otherwise
  the discipline's enabled action, preferring to deliver) and a lexicographic measure
  (queued items, occupied handlers in the books + in flight, position in the round) that every
  scheduled step decreases, until either the item is delivered or the discipline sits in
  `getLimitedFeedback` with nothing in flight — from where `c06_idle_delivers` finishes.
-/
namespace Cqos.C06

/-- the divider's contract as far as `safeDivide` checks it on zeroed maps -/
def SumRule (div : DivFn) : Prop :=
  ∀ i ps d (m : Dist), m.total = 0 → (div i ps d m).total = d ∨ (div i ps d m).total = 0

theorem stepCalc_pc_of_sumRule (div : DivFn) (hg : SumRule div) (s : St) (hle : s.actual.total ≤ s.cfg.H) :
    (stepCalc div s).pc = .prio 1 s.prios ∨ (stepCalc div s).pc = .waitFb := by
  simp only [stepCalc_of_le hle]
  cases hv : (calcTacticWith (div s.calls) s.prios s.actual s.strategic s.tactic (s.cfg.H - s.actual.total)).verdict with
  | error e => exact absurd hv (calcTacticWith_no_error (hg s.calls))
  | ok b => cases b <;> simp

theorem stepRecalc_pc_of_sumRule (div : DivFn) (hg : SumRule div) (s : St) :
    (stepRecalc div s).pc = .prio 2 s.prios ∨ (stepRecalc div s).pc = .prio 2 [] := by
  simp only [stepRecalc_def]
  cases hv : (recalcTacticWith div s.calls s.cfg.H s.prios s.actual s.tactic).verdict with
  | error e => exact absurd hv (recalcTacticWith_no_error hg)
  | ok b => cases b <;> simp

def NoErr (s : St) : Prop := ∀ e, s.pc ≠ .drain (some e) ∧ s.pc ≠ .done (some e)

/-- `NoErr` as a function of the control state: the cases of `noerr_step` close by `rfl` -/
def failed : Pc → Bool
  | .drain (some _) | .done (some _) => true
  | _ => false

theorem noerr_iff {s : St} : NoErr s ↔ failed s.pc = false := by
  unfold NoErr
  cases s.pc with
  | drain e | done e => cases e <;> simp [failed]
  | _ => simp [failed]

/-- with a divider obeying the sum rule no transition fails the discipline: the loop is left with
    an error only by `calcTactic` / `recalcTactic`, which report none -/
theorem noerr_step {div : DivFn} (hg : SumRule div) {s s' : St} {a : Act} (hinv : Inv s)
    (h : NoErr s) (hs : Step div s a s') : NoErr s' := by
  rw [noerr_iff] at h ⊢
  cases hs with
  | own hpc ho =>
    cases ho with
    | goto hg' =>
      cases hg' with
      | @exit e _ | @drainStop e _ _ => rw [hpc] at h; cases e <;> exact h
      | _ => rfl
    | consume _ _ hk =>
      cases hk with
      | waitFb => rcases afterWaitFb_pc _ with e | e <;> exact congrArg failed e
      | drain _ => exact h
      | _ => rfl
    | «calc» => rcases stepCalc_pc_of_sumRule div hg s (capOk_weaken hinv.cap) with e | e <;> exact congrArg failed e
    | recalc => rcases stepRecalc_pc_of_sumRule div hg s with e | e <;> exact congrArg failed e
    | limitedStop | limitedSeen _ _ => rcases nextRound_pc s with e | e <;> exact congrArg failed e
    | pollItem _ _ | pollDrop _ _ _ _ => exact h
    | _ => rfl
  | _ => exact h

theorem inflight_nd_step {div : DivFn} {s s' : St} {a : Act} (h : s.inflight.NodupKeys) (hs : Step div s a s') :
    s'.inflight.NodupKeys := by
  rcases step_delivery hs with ⟨_, _, _, _, _, _, _, _, hi, _, _⟩ | ⟨_, hi | ⟨_, _, hi⟩, _, _⟩
  · rw [hi]; exact Dist.nodupKeys_add _ _ _ h
  · rw [hi]; exact h
  · rw [hi]; exact Dist.nodupKeys_set _ _ _ h

def qs (l : List (Nat × Chan)) : Nat := (l.map (fun kv => kv.2.queue.length)).sum
/-- items waiting in all channels -/
def qsum (s : St) : Nat := qs s.chans
/-- handlers occupied in the discipline's books, plus items still held by handlers -/
def bsum (s : St) : Nat := s.actual.total + s.inflight.total
/-- position inside the round, going down along it: `calc`, phase 1, phase 2, then `limited fbLimit`,
    where `endRound` arrives.  Any other `limited k` lies ABOVE `calc`: reading a release there goes
    down in `bsum`, and its one own step, `limitedStop` at `k = 0`, starts the next round at `calc`.
    So `limited 0` must not be where `endRound` arrives: the order is used under `fbLimit ≠ 0`. -/
def pos (s : St) : Nat :=
  match s.pc with
  | .calc => 2 * s.prios.length + 10
  | .prio ph rest => if ph = 1 then s.prios.length + 5 + rest.length else 3 + rest.length
  | .limited k => if k = s.cfg.fbLimit then 1 else 2 * s.prios.length + 11
  | _ => 0

def Less (s1 s : St) : Prop :=
  qsum s1 < qsum s ∨ (qsum s1 = qsum s ∧ (bsum s1 < bsum s ∨ (bsum s1 = bsum s ∧ pos s1 < pos s)))

theorem less_wf : WellFounded Less :=
  Subrelation.wf (r := InvImage (Prod.Lex (· < ·) (Prod.Lex (· < ·) (· < ·))) fun s : St => (qsum s, bsum s, pos s))
    (fun {s1 s} h => by
      show Prod.Lex _ _ (qsum s1, bsum s1, pos s1) (qsum s, bsum s, pos s)
      rcases h with h | ⟨e, h | ⟨e', h⟩⟩
      · exact .left _ _ h
      · rw [e]; exact .right _ (.left _ _ h)
      · rw [e, e']; exact .right _ (.right _ h))
    (InvImage.wf _ (Prod.lex (ha := Nat.lt_wfRel) (hb := Prod.lex (ha := Nat.lt_wfRel) (hb := Nat.lt_wfRel))).wf)

theorem qs_alSet (l : List (Nat × Chan)) (k : Nat) (ch ch' : Chan) (h : alGet l k = some ch) :
    qs (alSet l k ch') + ch.queue.length = qs l + ch'.queue.length := by
  induction l with
  | nil => cases h
  | cons e r ih =>
    obtain ⟨k0, v0⟩ := e
    simp only [alGet] at h
    simp only [alSet]
    split at h
    · rename_i he
      cases h
      simp only [he, if_true, qs, List.map_cons, List.sum_cons]
      omega
    · rename_i he
      simp only [he, if_false, qs, List.map_cons, List.sum_cons]
      have := ih h
      simp only [qs] at this
      omega

/-- the item `x` waits at the head of the channel of the registered, undrained priority `p` -/
def Waits (s : St) (p x : Nat) : Prop :=
  ∃ inp ch q, alGet s.inputs p = some inp ∧ inp.chan = p ∧ inp.drained = false ∧
    alGet s.chans p = some ch ∧ ch.queue = x :: q

def Pre (D : List (Nat × Nat × Nat)) (s : St) : Prop := ∃ dl, s.delivered = D ++ dl
/-- `x` has been delivered under priority `p` after the moment at which `D` had been delivered -/
def Got (D : List (Nat × Nat × Nat)) (p x : Nat) (s : St) : Prop := ∃ dl, s.delivered = D ++ dl ∧ (p, p, x) ∈ dl

/-- a step of the angelic continuation: the discipline's own, or a handler releasing an item -/
def okAct (a : Act) : Prop := isOwn a = true ∨ ∃ r, a = .release r

theorem less_pos {s s1 : St} (hq : s1.chans = s.chans) (ha : s1.actual = s.actual) (hi : s1.inflight = s.inflight)
    (hp : pos s1 < pos s) : Less s1 s :=
  Or.inr ⟨by simp [qsum, hq], Or.inr ⟨by simp [bsum, ha, hi], hp⟩⟩

theorem less_bsum {s s1 : St} (hq : s1.chans = s.chans) (hb : bsum s1 < bsum s) : Less s1 s :=
  Or.inr ⟨by simp [qsum, hq], Or.inl hb⟩

theorem less_release {s u : St} (hq : u.chans = s.chans) (ha : u.actual = s.actual)
    (hi : u.inflight.total + 1 = s.inflight.total) : Less u s :=
  less_bsum hq (by unfold bsum; rw [ha, ← hi]; exact Nat.lt_succ_self _)

theorem less_read {s u : St} (hq : u.chans = s.chans) (hi : u.inflight = s.inflight)
    (ha : u.actual.total + 1 = s.actual.total) : Less u s :=
  less_bsum hq (by unfold bsum; rw [hi, ← ha]; exact Nat.add_lt_add_right (Nat.lt_succ_self _) _)

theorem less_item {s u : St} {c : Nat} {ch : Chan} {y : Nat} {ys : List Nat} (hc : alGet s.chans c = some ch)
    (hq : ch.queue = y :: ys) (hu : u.chans = alSet s.chans c { ch with queue := ys }) : Less u s := by
  have := qs_alSet s.chans c ch { ch with queue := ys } hc
  rw [hq, List.length_cons] at this
  change _ = _ + ys.length at this
  exact .inl (by unfold qsum; rw [hu]; omega)

theorem pos_calc_lt {s u : St} (hs : s.pc = .calc) (hp : u.prios = s.prios)
    (hu : u.pc = .prio 1 s.prios ∨ u.pc = .waitFb) : pos u < pos s := by
  rcases hu with e | e <;> simp only [pos, e, hs, hp, if_true] <;> omega

theorem pos_recalc_lt {s u : St} (hs : s.pc = .prio 1 [])
    (hu : u.pc = .prio 2 s.prios ∨ u.pc = .prio 2 []) : pos u < pos s := by
  rcases hu with e | e <;> simp [pos, e, hs] <;> omega

theorem pos_end_lt {s u : St} {ph : Nat} (hs : s.pc = .prio ph []) (h1 : ph ≠ 1) (hc : u.cfg = s.cfg)
    (hu : u.pc = .drain none ∨ u.pc = .limited s.cfg.fbLimit) : pos u < pos s := by
  rcases hu with e | e <;> simp [pos, e, hs, h1, hc]

theorem pos_next_lt {s u : St} {ph q : Nat} {rest : List Nat} (hs : s.pc = .prio ph (q :: rest)) (hp : u.prios = s.prios)
    (hu : u.pc = .prio ph rest) : pos u < pos s := by
  simp only [pos, hu, hs, hp, List.length_cons]
  split <;> exact Nat.add_lt_add_left (Nat.lt_succ_self _) _

theorem pos_nextRound_lt {s : St} (hs : s.pc = .limited 0) (hfb : s.cfg.fbLimit ≠ 0) (hv : s.cfg.v1 = false) :
    pos (nextRound s) < pos s := by
  simp only [pos, nextRound_v2 hv, hs, if_neg (Ne.symm hfb)]
  exact Nat.lt_succ_self _

theorem not_allDrained {s : St} {p x : Nat} (h : Waits s p x) : allDrained s.inputs = false := by
  obtain ⟨inp, _, _, a, _, c, _, _⟩ := h
  cases hall : allDrained s.inputs with
  | false => rfl
  | true =>
    have := alGet_mem_all s.inputs (fun kv => kv.2.drained) hall p inp a
    simp only at this
    rw [c] at this; cases this

structure Facts (s0 s : St) : Prop where
  ht : C07.TInv s
  hinv : Inv s
  hwf : C15.WF s
  v2 : s.cfg.v1 = false
  prios : s.prios = s0.prios
  cfg : s.cfg = s0.cfg
  own : ∀ p inp, alGet s.inputs p = some inp → inp.chan = p
  noerr : NoErr s
  notop : s.pc ≠ .top
  ind : s.inflight.NodupKeys
  wait : s.pc = .waitFb → 0 < s.inflight.total + s.pending.length

theorem reach_facts (div : DivFn) (hg : SumRule div) (keys : List (Nat × Bool)) (H : Nat) (hH : 0 < H)
    (hnd : (keys.map (·.1)).Nodup) (s0 s : St) (acts : List Act) (h0 : initV2 div keys H = .ok s0)
    (hsum : sumOver s0.prios s0.strategic = H) (hr : run div s0 acts = some s) : Facts s0 s := by
  obtain ⟨hf, _⟩ := C01.initV2_fresh div keys H s0 h0
  obtain ⟨ht, hinv, hwf, hcfg⟩ := C07.reach_initV2 hnd h0 hr
  obtain ⟨c1, _, c3, c4⟩ := C07.v2_static_run div acts s0 s (initV2_v1 h0) hr
  obtain ⟨_, hne, hind⟩ := run_induction (div := div) (I := fun u => Inv u ∧ NoErr u ∧ u.inflight.NodupKeys)
    (fun ⟨hi, h1, h2⟩ hs => ⟨C01.step_inv hi hs, noerr_step hg hi h1 hs, inflight_nd_step h2 hs⟩)
    ⟨C01.fresh_inv hf, noerr_iff.2 (by rw [initV2_pc h0]; rfl), by rw [hf.2.1]; exact Dist.nodupKeys_nil⟩ hr
  exact ⟨ht, hinv, hwf, by rw [c3]; exact initV2_v1 h0, c1, c3, v2_inputs_own_chan div keys H s0 s acts h0 hr, hne,
    c4 (by rw [initV2_pc h0]; simp), hind, c06_never_waits_idle div keys H hH hnd s0 s acts h0 hsum hr⟩

/-- what a step of the angelic continuation does to inputs, channels and deliveries: nothing (`ctrl`);
    the head priority's input, closed and empty, is marked drained (`closed`); its head item is delivered (`item`) -/
inductive Moves (s s1 : St) : Prop
  | ctrl (hi : s1.inputs = s.inputs) (hc : s1.chans = s.chans) (hd : s1.delivered = s.delivered)
  | closed (q : Nat) (inp : Input) (ch : Chan) (hP : Polls s q inp ch) (hq : ch.queue = []) (hcl : ch.closed = true)
      (hi : s1.inputs = alSet s.inputs q { inp with drained := true }) (hc : s1.chans = s.chans)
      (hd : s1.delivered = s.delivered)
  | item (q : Nat) (inp : Input) (ch : Chan) (x : Nat) (r : List Nat) (hP : Polls s q inp ch) (hq : ch.queue = x :: r)
      (hi : s1.inputs = s.inputs) (hc : s1.chans = alSet s.chans inp.chan { ch with queue := r })
      (hd : s1.delivered = s.delivered ++ [(q, inp.chan, x)])

/-- **the angelic continuation, one step.**  In a reachable state of a v2 discipline, unless nothing
    is held or unread and the discipline sits in `getLimitedFeedback` or has left its loop: a handler
    releases an item if any is held, otherwise the discipline makes its own move (`poll_next` inside
    `prioritize`).  The step goes down in `Less`. -/
theorem angel_step (div : DivFn) (hg : SumRule div) (s0 s : St) (F : Facts s0 s) (hfb : s.cfg.fbLimit ≠ 0)
    (hgo : ¬ (s.inflight.total = 0 ∧ s.pending = [] ∧
      ((∃ k, s.pc = .limited k) ∨ (∃ e, s.pc = .drain e) ∨ ∃ e, s.pc = .done e))) :
    ∃ a s1, Step div s a s1 ∧ okAct a ∧ Less s1 s ∧ Moves s s1 := by
  by_cases hfl : 0 < s.inflight.total
  · obtain ⟨r, hr⟩ := Dist.exists_get_ne_zero s.inflight F.ind hfl
    exact ⟨_, _, .release hr, .inr ⟨r, rfl⟩, less_release rfl rfl (Dist.total_set_pred hr), .ctrl rfl rfl rfl⟩
  · have hfl0 : s.inflight.total = 0 := Nat.eq_zero_of_not_pos hfl
    have hbooks : s.actual.total = s.pending.length := by rw [F.hinv.core.tot, hfl0, Nat.zero_add]
    -- reading a pending release `r` takes one handler out of the books
    have read : ∀ {pc k}, s.pc = pc → s.pending ≠ [] → (∀ r, Consumes s r pc (.consume r) k) →
        (∀ t : St, (k t).chans = t.chans ∧ (k t).inflight = t.inflight ∧ (k t).inputs = t.inputs ∧
          (k t).delivered = t.delivered ∧ (k t).actual = t.actual) →
        ∃ a s1, Step div s a s1 ∧ okAct a ∧ Less s1 s ∧ Moves s s1 := by
      intro pc k hpc hpe hk hfr
      obtain ⟨r, hr⟩ := List.exists_mem_of_ne_nil _ hpe
      obtain ⟨hne, _, h3⟩ := core_consume F.hinv.core r hr
      obtain ⟨e1, e2, e3, e4, e5⟩ := hfr { s with pending := s.pending.erase r, actual := s.actual.set r (s.actual.get r - 1) }
      exact ⟨_, _, .own hpc (.consume hr hne (hk r)), .inl rfl, less_read e1 e2 (by rw [e5]; exact h3), .ctrl e3 e1 e4⟩
    -- an own step inside the round that touches nothing but the position
    have move : ∀ {a : Act} {u : St}, Own div s s.pc a u → isOwn a = true → u.chans = s.chans → u.actual = s.actual →
        u.inflight = s.inflight → u.inputs = s.inputs → u.delivered = s.delivered → pos u < pos s →
        ∃ a s1, Step div s a s1 ∧ okAct a ∧ Less s1 s ∧ Moves s s1 :=
      fun {a u} ho hown e1 e2 e3 e4 e5 hp => ⟨a, u, .own rfl ho, .inl hown, less_pos e1 e2 e3 hp, .ctrl e4 e1 e5⟩
    have hpe : (∃ k, s.pc = .limited k) ∨ (∃ e, s.pc = .drain e) ∨ (∃ e, s.pc = .done e) → s.pending ≠ [] :=
      fun h e => hgo ⟨hfl0, e, h⟩
    have idle : s.actual.total = 0 → s.pending = [] := fun h => List.eq_nil_of_length_eq_zero (hbooks ▸ h)
    generalize hpc : s.pc = pc at move
    cases pc with
    | top => exact absurd hpc F.notop
    | fault => exact absurd hpc F.hinv.nofault
    | done e =>
      -- a terminated v2 discipline holds nothing
      rcases F.ht.done e hpc with h | ⟨h, _⟩
      · exact absurd (idle h) (hpe (.inr (.inr ⟨e, hpc⟩)))
      · rw [F.v2] at h; cases h
    | drain e =>
      have hne := hpe (.inr (.inl ⟨e, hpc⟩))
      have hz : s.actual.allZero = false := by
        cases hz : s.actual.allZero with
        | false => rfl
        | true => exact absurd (idle ((Dist.allZero_iff_total _).1 hz)) hne
      exact read hpc hne (fun _ => .drain hz) (fun _ => ⟨rfl, rfl, rfl, rfl, rfl⟩)
    | «calc» =>
      have fr := stepCalc_eq div s
      exact move .calc rfl (by rw [fr]) (by rw [fr]) (by rw [fr]) (by rw [fr]) (by rw [fr])
        (pos_calc_lt hpc (by rw [fr]) (stepCalc_pc_of_sumRule div hg s (capOk_weaken F.hinv.cap)))
    | waitFb =>
      have hne : s.pending ≠ [] := fun e => by
        have := F.wait hpc
        rw [e, hfl0] at this
        exact Nat.lt_irrefl _ this
      refine read hpc hne (fun _ => .waitFb) (fun t => ?_)
      rw [afterWaitFb_eq]; exact ⟨rfl, rfl, rfl, rfl, rfl⟩
    | limited k =>
      have hne := hpe (.inl ⟨k, hpc⟩)
      by_cases hk : k = 0
      · subst hk
        exact move .limitedStop rfl rfl rfl rfl rfl rfl (pos_nextRound_lt hpc hfb F.v2)
      · exact read hpc hne (fun _ => .limited hk) (fun _ => ⟨rfl, rfl, rfl, rfl, rfl⟩)
    | prio ph rest =>
      cases rest with
      | nil =>
        by_cases hph : ph = 1
        · subst hph
          have fr := stepRecalc_eq div s
          exact move .recalc rfl (by rw [fr]) (by rw [fr]) (by rw [fr]) (by rw [fr]) (by rw [fr])
            (pos_recalc_lt hpc (stepRecalc_pc_of_sumRule div hg s))
        · by_cases hc : s.processed = 0 ∧ (¬ s.cfg.v1 ∨ s.graceful) ∧ allDrained s.inputs
          · exact move (.goto (.endDrain hph hc.1 hc.2.1 hc.2.2)) rfl rfl rfl rfl rfl rfl (pos_end_lt hpc hph rfl (.inl rfl))
          · exact move (.goto (.endLimited hph hc)) rfl rfl rfl rfl rfl rfl (pos_end_lt hpc hph rfl (.inr rfl))
      | cons q rest =>
        rcases poll_next div ph rest (F.ht.chansOK q) with
          ho | ⟨iq, cq, hP, ⟨hqq, hcl, ho⟩ | ho | ⟨y, ys, hqq, ho⟩⟩
        · exact move ho rfl rfl rfl rfl rfl rfl (pos_next_lt hpc rfl rfl)
        · exact ⟨_, _, .own hpc ho, .inl rfl, less_pos rfl rfl rfl (pos_next_lt hpc rfl rfl),
            .closed q iq cq hP hqq hcl rfl rfl rfl⟩
        · exact move ho rfl rfl rfl rfl rfl rfl (pos_next_lt hpc rfl rfl)
        · exact ⟨_, _, .own hpc ho, .inl rfl, less_item hP.chan hqq rfl, .item q iq cq y ys hP hqq rfl rfl rfl⟩

/-- the angelic step while the item `x` waits at the head of `p`'s channel: it stays there, or is delivered -/
theorem sched_step (div : DivFn) (hg : SumRule div) (s0 s : St) (F : Facts s0 s) (hfb : s.cfg.fbLimit ≠ 0)
    (D : List (Nat × Nat × Nat)) (p x : Nat) (hpre : Pre D s) (hw : Waits s p x)
    (hnt : ¬ (s.inflight.total = 0 ∧ s.pending = [] ∧ ∃ k, s.pc = .limited k)) :
    ∃ a s1, step div s a = some s1 ∧ okAct a ∧ Pre D s1 ∧ (Got D p x s1 ∨ (Waits s1 p x ∧ Less s1 s)) := by
  -- an undrained input keeps the discipline in its loop
  have hex : ∀ e, ¬ (s.pc = .drain e ∨ s.pc = .done e) := by
    intro e hpc
    cases e with
    | some e => rcases hpc with h | h; exact (F.noerr e).1 h; exact (F.noerr e).2 h
    | none =>
      rcases F.ht.exit hpc with h | ⟨h, _⟩
      · rw [not_allDrained hw] at h; cases h
      · rw [F.v2] at h; cases h
  obtain ⟨a, s1, hs, hok, hless, hm⟩ := angel_step div hg s0 s F hfb (fun ⟨h1, h2, h3⟩ => by
    rcases h3 with h | ⟨e, h⟩ | ⟨e, h⟩
    · exact hnt ⟨h1, h2, h⟩
    · exact hex e (.inl h)
    · exact hex e (.inr h))
  refine ⟨a, s1, hs.step_eq, hok, ?_⟩
  obtain ⟨inp, ch, qq, hin, hchan, hud, hch, hqx⟩ := hw
  obtain ⟨dl, hdl⟩ := hpre
  rcases hm with ⟨e1, e2, e3⟩ | ⟨q, iq, cq, hP, hqq, _, e1, e2, e3⟩ | ⟨q, iq, cq, y, ys, hP, hqq, e1, e2, e3⟩
  · exact ⟨⟨dl, e3.trans hdl⟩, .inr ⟨⟨inp, ch, qq, e1 ▸ hin, hchan, hud, e2 ▸ hch, hqx⟩, hless⟩⟩
  · -- the input marked drained is not `p`'s: that channel is not empty
    have hqp : q ≠ p := by
      intro e; subst e
      have hcq := hP.chan
      rw [F.own q iq hP.input, hch] at hcq; cases hcq
      rw [hqx] at hqq; cases hqq
    refine ⟨⟨dl, e3.trans hdl⟩, .inr ⟨⟨inp, ch, qq, ?_, hchan, hud, e2 ▸ hch, hqx⟩, hless⟩⟩
    rw [e1, alGet_alSet, if_neg hqp]; exact hin
  · have hiqc : iq.chan = q := F.own q iq hP.input
    have hpre1 : s1.delivered = D ++ (dl ++ [(q, iq.chan, y)]) := by rw [e3, hdl, List.append_assoc]
    refine ⟨⟨_, hpre1⟩, ?_⟩
    by_cases hqp : q = p
    · subst hqp
      have hcq := hP.chan
      rw [hiqc, hch] at hcq; cases hcq
      rw [hqx] at hqq; cases hqq
      exact .inl ⟨_, hpre1, by rw [hiqc]; simp⟩
    · refine .inr ⟨⟨inp, ch, qq, e1 ▸ hin, hchan, hud, ?_, hqx⟩, hless⟩
      rw [e2, alGet_alSet, hiqc, if_neg hqp]; exact hch

theorem fbLimit_ne_zero (div : DivFn) (keys : List (Nat × Bool)) (H : Nat) (hH : 0 < H) (s0 : St)
    (h0 : initV2 div keys H = .ok s0) (hsum : sumOver s0.prios s0.strategic = H) : s0.cfg.fbLimit ≠ 0 := by
  obtain ⟨_, _, rfl⟩ := initV2_ok h0
  -- the shares of no priorities add up to nothing
  have hkeys : keys.length ≠ 0 := by
    intro hk
    have hnil : keys = [] := List.eq_nil_of_length_eq_zero hk
    subst hnil
    exact absurd hsum (Nat.ne_of_lt hH)
  show divideWithMin H 10 keys.length ≠ 0
  unfold divideWithMin
  rw [if_neg (by decide)]
  split <;> omega

/-- what is to be shown of a state: a continuation of releases and own steps delivers `x` -/
def Goal (div : DivFn) (D : List (Nat × Nat × Nat)) (p x : Nat) (s : St) : Prop :=
  ∃ acts' s', run div s acts' = some s' ∧ Got D p x s' ∧ ∀ a ∈ acts', okAct a

theorem goal_step {div : DivFn} {D : List (Nat × Nat × Nat)} {p x : Nat} {s s1 : St} {a : Act}
    (hs : Step div s a s1) (ha : okAct a) (h : Goal div D p x s1) : Goal div D p x s := by
  obtain ⟨acts', s', hr, hg, ho⟩ := h
  exact ⟨a :: acts', s', run_cons_iff.2 ⟨s1, hs, hr⟩, hg, List.forall_mem_cons.2 ⟨ha, ho⟩⟩

/-- in `getLimitedFeedback` with nothing in flight and nothing to read: the next round starts
    idle, and `c06_idle_delivers` applies -/
theorem terminal (div : DivFn) (hg : SumRule div) (keys : List (Nat × Bool)) (H : Nat) (hH : 0 < H)
    (hnd : (keys.map (·.1)).Nodup) (s0 s : St) (acts : List Act) (h0 : initV2 div keys H = .ok s0)
    (hsum : sumOver s0.prios s0.strategic = H) (hr : run div s0 acts = some s)
    (hfl0 : s.inflight.total = 0) (hpe : s.pending = []) (k : Nat) (hpc : s.pc = .limited k)
    (D : List (Nat × Nat × Nat)) (p x : Nat) (hpre : Pre D s) (hw : Waits s p x) : Goal div D p x s := by
  have F := reach_facts div hg keys H hH hnd s0 s acts h0 hsum hr
  have hstep : Step div s .limitedStop (nextRound s) := .own hpc .limitedStop
  have hr1 : run div s0 (acts ++ [.limitedStop]) = some (nextRound s) :=
    run_append_iff.2 ⟨s, hr, run_cons_iff.2 ⟨_, hstep, rfl⟩⟩
  have hpc1 : (nextRound s).pc = .calc := by rw [nextRound_v2 F.v2]
  have hidle : (nextRound s).actual.total = 0 := by
    have := F.hinv.core.tot
    rw [hfl0, hpe] at this
    show s.actual.total = 0
    simpa using this
  obtain ⟨inp, ch, q, hin, hchan, hud, hch, hq⟩ := hw
  obtain ⟨acts', s', hr', ⟨dl, hdl, hmem⟩, _, hown⟩ :=
    c06_idle_delivers div keys H hH hnd s0 (nextRound s) (acts ++ [.limitedStop]) h0 hsum hr1 hpc1 hidle
      p inp hin hud ch x q (by rw [hchan]; exact hch) hq
  obtain ⟨d0, hd0⟩ := hpre
  refine goal_step hstep (.inl rfl) ⟨.calc :: acts', s', hr', ⟨d0 ++ dl, ?_, ?_⟩,
    List.forall_mem_cons.2 ⟨.inl rfl, fun a ha => .inl (hown a ha)⟩⟩
  · rw [hdl]
    show s.delivered ++ dl = D ++ (d0 ++ dl)
    rw [hd0, List.append_assoc]
  · rw [hchan] at hmem; exact List.mem_append_right _ hmem

theorem deliverable (div : DivFn) (hg : SumRule div) (keys : List (Nat × Bool)) (H : Nat) (hH : 0 < H)
    (hnd : (keys.map (·.1)).Nodup) (s0 : St) (h0 : initV2 div keys H = .ok s0)
    (hsum : sumOver s0.prios s0.strategic = H) (D : List (Nat × Nat × Nat)) (p x : Nat) (s : St) :
    ∀ acts, run div s0 acts = some s → Pre D s → Waits s p x → Goal div D p x s := by
  induction s using less_wf.induction with
  | _ s ih =>
    intro acts hr hpre hw
    have F := reach_facts div hg keys H hH hnd s0 s acts h0 hsum hr
    by_cases hterm : s.inflight.total = 0 ∧ s.pending = [] ∧ ∃ k, s.pc = .limited k
    · obtain ⟨h1, h2, k, h3⟩ := hterm
      exact terminal div hg keys H hH hnd s0 s acts h0 hsum hr h1 h2 k h3 D p x hpre hw
    · have hfb : s.cfg.fbLimit ≠ 0 := by rw [F.cfg]; exact fbLimit_ne_zero div keys H hH s0 h0 hsum
      obtain ⟨a, s1, hs, hok, hpre1, hcase⟩ := sched_step div hg s0 s F hfb D p x hpre hw hterm
      have hs := step_sound hs
      refine goal_step hs hok ?_
      rcases hcase with hgot | ⟨hw1, hless⟩
      · exact ⟨[], s1, rfl, hgot, nofun⟩
      · exact ih s1 hless (acts ++ [a]) (run_append_iff.2 ⟨s, hr, run_cons_iff.2 ⟨s1, hs, rfl⟩⟩) hpre1 hw1

theorem deliverable_aux (div : DivFn) (hg : SumRule div) (keys : List (Nat × Bool)) (H : Nat) (hH : 0 < H)
    (hnd : (keys.map (·.1)).Nodup) (s0 : St) (h0 : initV2 div keys H = .ok s0)
    (hsum : sumOver s0.prios s0.strategic = H) (D : List (Nat × Nat × Nat)) (p x : Nat) :
    ∀ (nQ nB nP : Nat) (s : St) (acts : List Act), run div s0 acts = some s → Pre D s → Waits s p x →
      qsum s < nQ → bsum s < nB → pos s < nP → Goal div D p x s :=
  fun _ _ _ s acts hr hpre hw _ _ _ => deliverable div hg keys H hH hnd s0 h0 hsum D p x s acts hr hpre hw

/-- **C06 (no reachable state is doomed).** After ANY run of a v2 discipline — whatever the
    arrivals, the releases and their order so far — with a divider obeying the sum rule: if an item
    `x` waits at the head of the channel of a registered, undrained priority `p`, then some
    continuation that consists ONLY of handlers releasing items they hold and of the discipline's
    own steps delivers `x` under priority `p`.  (With fair scheduling and handlers that eventually
    release, the eventuality of C06 follows; by induction along the queue, for every waiting item.) -/
theorem c06_deliverable (div : DivFn) (hg : SumRule div) (keys : List (Nat × Bool)) (H : Nat) (hH : 0 < H)
    (hnd : (keys.map (·.1)).Nodup) (s0 s : St) (acts : List Act) (h0 : initV2 div keys H = .ok s0)
    (hsum : sumOver s0.prios s0.strategic = H) (hr : run div s0 acts = some s)
    (p : Nat) (inp : Input) (hin : alGet s.inputs p = some inp) (hud : inp.drained = false)
    (ch : Chan) (x : Nat) (q : List Nat) (hch : alGet s.chans inp.chan = some ch) (hq : ch.queue = x :: q) :
    ∃ acts' s', run div s acts' = some s' ∧
      (∃ dl, s'.delivered = s.delivered ++ dl ∧ (p, inp.chan, x) ∈ dl) ∧
      (∀ a ∈ acts', isOwn a = true ∨ ∃ r, a = .release r) := by
  have F := reach_facts div hg keys H hH hnd s0 s acts h0 hsum hr
  have hchan : inp.chan = p := F.own p inp hin
  have hw : Waits s p x := ⟨inp, ch, q, hin, hchan, hud, by rw [← hchan]; exact hch, hq⟩
  obtain ⟨acts', s', hr', ⟨dl, hdl, hmem⟩, hok⟩ :=
    deliverable div hg keys H hH hnd s0 h0 hsum s.delivered p x s acts hr ⟨[], (List.append_nil _).symm⟩ hw
  exact ⟨acts', s', hr', ⟨dl, hdl, by rw [hchan]; exact hmem⟩, hok⟩

theorem sumRule_of_conserves {f : List Nat → Nat → Dist → Dist} (h : Conserves f) : SumRule (fun _ => f) :=
  fun _ ps d m hm => by rw [h, hm]; split <;> simp

/-- the library's dividers obey the sum rule (C14): the hypothesis of `c06_deliverable` is met by
    `divider.Fair` and by `divider.Rate` (with any rounding) -/
theorem sumRule_fair : SumRule (fun _ => fair) := sumRule_of_conserves conserves_fair

theorem sumRule_rate : SumRule (fun _ => rate) := sumRule_of_conserves C14.conserves_rate

/-! Non-vacuity: one handler, priority 1 alone; item 7 is delivered and held, item 8 arrives while the
    discipline is in the middle of the round with its allotment used up: the state satisfies the
    hypotheses (8 waits at the head of the undrained input 1), and a continuation of the kind the
    theorem promises — one release, then own steps only — delivers it. -/
example :
    (match initV2 (fun _ => fair) [(1, true)] 1 with
     | .ok s0 =>
       (run (fun _ => fair) s0 [.arrive 1 7, .calc, .pollItem, .arrive 1 8]).map
         (fun (s : St) => (s.delivered, s.inflight.total, s.tactic.get 1,
            (match alGet s.chans 1 with | some c => c.queue | none => []),
            (match alGet s.inputs 1 with | some i => i.drained | none => true)))
     | .error _ => none) = some ([(1, 1, 7)], 1, 0, [8], false) := by decide +kernel
example :
    (match initV2 (fun _ => fair) [(1, true)] 1 with
     | .ok s0 =>
       (run (fun _ => fair) s0 ([.arrive 1 7, .calc, .pollItem, .arrive 1 8] ++
          [.release 1, .skip, .recalc, .skip, .endRound, .consume 1, .limitedStop, .calc, .pollItem])).map
         (fun (s : St) => s.delivered)
     | .error _ => none) = some [(1, 1, 7), (1, 1, 8)] := by decide +kernel

end Cqos.C06
