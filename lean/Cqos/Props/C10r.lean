import Cqos.Props.C03
import Cqos.Props.C10
/-
  Property C10, the bound as a run-level theorem: along any run in which a ticker firing is
  processed at least every `τ` clock units (`denseRun`), every element still inside the
  discipline has been there for less than `Timeout + τ` (`c10_residence`), whatever the arrival
  pattern, JoinSize, mode and kind.  With `τ = Timeout / ⌊100 / inaccuracy⌋` this is the bound
  of the property.  What is assumed rather than proved is exactly the density of processed
  firings: a fact about Go's ticker and scheduler and about the consumer being ready (the
  discipline is never stuck awaiting a release for longer than `τ`).
-/
namespace Cqos.C10
open Cqos.C03

/-- what a block run at reading `t` may do to `firstAt` while the buffer is non-empty: leave it
    alone (and then the buffer was non-empty before), or set it to `t` -/
def Keep (s : JSt) (t : Nat) (u : JSt) : Prop :=
  u.pc = .run → u.buf ≠ [] → (u.firstAt = s.firstAt ∧ s.buf ≠ []) ∨ t ≤ u.firstAt

theorem k_appendPath (s : JSt) (xs : List Nat) (t : Nat) :
    Keep s t (jappendPath s xs t) := by
  rw [jappendPath_eq]
  split
  · intro _ _
    by_cases hb : s.buf = []
    · right; simp [jappend, hb]
    · left; simp [jappend, hb]
  · exact fun hr hb => absurd (jpass_buf_of_run hr) hb

theorem k_cont (s : JSt) (xs : List Nat) (hfit : Fits s xs) (id t : Nat) :
    Keep s t (jcont (jlog s xs) id xs t) := by
  by_cases hbig : s.cfg.size ≤ xs.length
  · intro hr hb'
    cases hc : s.cfg.noCopy with
    | true => rw [jtake_big_nocopy id t hbig hc] at hr; cases hr
    | false => rw [jtake_big_copy id t hbig hc] at hb'; exact absurd (hfit.1 hbig) hb'
  · rw [jtake_small id t (Nat.not_le.1 hbig)]
    exact k_appendPath (jlog s xs) xs t

/-- **one step and the oldest buffered element**: if a step ends in state `run` with a non-empty
    buffer, then either the buffer was non-empty (in state `run`) before and its oldest element
    is the same — and if the step was a ticker firing, the timeout had not yet expired — or the
    oldest element was accepted at the step's own clock reading. -/
theorem k_step (s s' : JSt) (a : JAct) (hj : JInv s) (hs : jstep s a = some s')
    (hr' : s'.pc = .run) (hb' : s'.buf ≠ []) :
    (s'.firstAt = s.firstAt ∧ s.pc = .run ∧ s.buf ≠ [] ∧ ∀ t, a = .tick t → t - s.passAt < s.cfg.timeout) ∨
    (∃ t, clockOf a = some t ∧ t ≤ s'.firstAt) := by
  -- a slice taken into an empty buffer is the oldest element
  have fresh : ∀ {u : JSt} {id : Nat} {xs : List Nat} {t : Nat}, u.buf = [] →
      (jcont (jlog u xs) id xs t).pc = .run → (jcont (jlog u xs) id xs t).buf ≠ [] →
      t ≤ (jcont (jlog u xs) id xs t).firstAt := by
    intro u id xs t hu hr hb
    rcases k_cont u xs (Fits.of_nil hu xs) id t hr hb with ⟨_, h⟩ | h
    · exact absurd hu h
    · exact h
  cases JStep.of_jstep hs with
  | skip | stop => exact Or.inl ⟨rfl, hr', hb', fun _ h => by cases h⟩
  | idle hpc _ hlt => exact Or.inl ⟨rfl, hpc, hb', fun _ h => by cases h; exact hlt⟩
  | @join _ xs t hpc =>
    rcases k_appendPath (jlog s xs) xs t hr' hb' with ⟨h1, h2⟩ | h
    · exact Or.inl ⟨h1, hpc, h2, fun _ h => by cases h⟩
    · exact Or.inr ⟨t, rfl, h⟩
  | hold | tick | closeHold => exact absurd (jpass_buf_of_run hr') hb'
  | @flush _ xs t _ _ _ hb hc =>
    rw [jpass_copy_eq s t false none hb hc] at hr' hb' ⊢
    exact Or.inr ⟨t, rfl, fresh rfl hr' hb'⟩
  | @take _ xs t hpc _ hf =>
    rcases k_cont s xs hf _ t hr' hb' with ⟨h1, h2⟩ | h
    · exact Or.inl ⟨h1, hpc, h2, fun _ h => by cases h⟩
    · exact Or.inr ⟨t, rfl, h⟩
  | closeDone | stopFlush | stopRun | stopAwait => cases hr'
  | release => exact absurd rfl hb'
  | @resume _ xs t => exact Or.inr ⟨t, rfl, fresh rfl hr' hb'⟩

/-- the reading of the last processed ticker firing after action `a` at reading `t` -/
def ltAfter (a : JAct) (t lt : Nat) : Nat := match a with | .tick _ => t | _ => lt

/-- a run in which every clock reading is not in the past and at most `τ` after the last
    processed ticker firing (`lt`; initially the creation of the discipline) -/
def denseRun (τ : Nat) : JSt → Nat → Nat → List JAct → Option (JSt × Nat × Nat)
  | s, now, lt, [] => some (s, now, lt)
  | s, now, lt, a :: as =>
    match clockOf a with
    | some t =>
      if now ≤ t ∧ t ≤ lt + τ then
        (match jstep s a with
         | some s' => denseRun τ s' t (ltAfter a t lt) as
         | none => none)
      else none
    | none => (match jstep s a with | some s' => denseRun τ s' now lt as | none => none)

/-- the residence invariant -/
structure RInv (τ : Nat) (c : JCfg) (s : JSt) (now lt : Nat) : Prop where
  f : FInv s now
  j : JInv s
  pos : 0 < s.cfg.timeout
  cfgEq : s.cfg = c
  le : lt ≤ now
  near : now ≤ lt + τ
  fresh : s.pc = .run → s.buf ≠ [] → lt < s.firstAt + s.cfg.timeout

theorem ltAfter_cases (a : JAct) (t fired : Nat) :
    (∃ t', a = .tick t') ∧ ltAfter a t fired = t ∨ (∀ t', a ≠ .tick t') ∧ ltAfter a t fired = fired := by
  cases a with
  | tick t' => exact Or.inl ⟨⟨t', rfl⟩, rfl⟩
  | _ => exact Or.inr ⟨fun _ h => (by cases h), rfl⟩

theorem lt_add_of_sub_lt {t p f T : Nat} (h1 : t - p < T) (h2 : p ≤ f) : t < f + T := by omega

theorem r_step (τ : Nat) (c : JCfg) (s s' : JSt) (a : JAct) (now lt t : Nat) (h : RInv τ c s now lt)
    (hc : clockOf a = some t) (hle : now ≤ t) (hd : t ≤ lt + τ) (hs : jstep s a = some s') :
    RInv τ c s' t (ltAfter a t lt) := by
  have hS := JStep.of_jstep hs
  have hf := f_step s s' a now h.f (fun t' ht' => by rw [hc] at ht'; cases ht'; exact hle) hS
  rw [hc] at hf
  have hj' := jstep_inv s s' a h.j hS
  have hcfg := hS.cfg_eq
  have hpos : 0 < s'.cfg.timeout := by rw [hcfg]; exact h.pos
  have hlt : lt ≤ t := Nat.le_trans h.le hle
  have hlA : ltAfter a t lt ≤ t ∧ t ≤ ltAfter a t lt + τ := by
    rcases ltAfter_cases a t lt with ⟨_, e⟩ | ⟨_, e⟩ <;> rw [e]
    · exact ⟨Nat.le_refl _, Nat.le_add_right _ _⟩
    · exact ⟨hlt, hd⟩
  have hfresh : s'.pc = .run → s'.buf ≠ [] → (ltAfter a t lt) < s'.firstAt + s'.cfg.timeout := by
    intro hr' hb'
    rcases k_step s s' a h.j hs hr' hb' with ⟨e, hr, hb, htk⟩ | ⟨t', ht', hfa⟩
    · rw [e, hcfg]
      have hfr := h.fresh hr hb
      have hold := (h.f.oldest hr hb).1
      rcases ltAfter_cases a t lt with ⟨⟨t'', rfl⟩, e'⟩ | ⟨_, e'⟩ <;> rw [e']
      · cases hc
        exact lt_add_of_sub_lt (htk t rfl) hold
      · exact hfr
    · rw [hc] at ht'; cases ht'
      omega
  exact ⟨hf, hj', hpos, by rw [hcfg]; exact h.cfgEq, hlA.1, hlA.2, hfresh⟩

theorem r_run (τ : Nat) (c : JCfg) (acts : List JAct) (s s' : JSt) (now now' fired fired' : Nat)
    (h : RInv τ c s now fired) (hr : denseRun τ s now fired acts = some (s', now', fired')) : RInv τ c s' now' fired' := by
  induction acts generalizing s now fired with
  | nil => simp [denseRun] at hr; obtain ⟨rfl, rfl, rfl⟩ := hr; exact h
  | cons a as ih =>
    simp only [denseRun] at hr
    split at hr
    · rename_i t hc
      split at hr
      · rename_i hcond
        split at hr
        · rename_i s1 hs1
          exact ih s1 t _ (r_step τ c s s1 a now fired t h hc hcond.1 hcond.2 hs1) hr
        · cases hr
      · cases hr
    · rename_i hc
      split at hr
      · rename_i s1 hs1
        have hS := JStep.of_jstep hs1
        have hf := f_step s s1 a now h.f (fun t' ht' => by rw [hc] at ht'; cases ht') hS
        rw [hc] at hf
        have hj' := jstep_inv s s1 a h.j hS
        have hcfg := hS.cfg_eq
        refine ih s1 now fired ⟨hf, hj', by rw [hcfg]; exact h.pos, by rw [hcfg]; exact h.cfgEq, h.le, h.near, ?_⟩ hr
        intro hr' hb'
        rcases k_step s s1 a h.j hs1 hr' hb' with ⟨e, hr0, hb0, _⟩ | ⟨t', ht', _⟩
        · rw [e, hcfg]; exact h.fresh hr0 hb0
        · rw [hc] at ht'; cases ht'
      · cases hr

/-- **C10 (the bound).** Along any run of a batching discipline with `Timeout > 0` in which a
    ticker firing is processed at least every `τ` (and the clock does not run backwards): at
    every moment, the oldest element still inside the discipline was accepted less than
    `Timeout + τ` ago — for every arrival pattern, JoinSize, copy / no-copy, join / unite / v1. -/
theorem c10_residence (cfg : JCfg) (t0 τ : Nat) (hsz : 0 < cfg.size) (hT : 0 < cfg.timeout)
    (acts : List JAct) (s : JSt) (now lt : Nat)
    (hr : denseRun τ (jinit cfg t0) t0 t0 acts = some (s, now, lt)) (hrun : s.pc = .run) (hb : s.buf ≠ []) :
    now < s.firstAt + cfg.timeout + τ ∧ s.firstAt ≤ now := by
  have h0 : RInv τ cfg (jinit cfg t0) t0 t0 :=
    ⟨⟨by simp [jinit], fun _ hb' => by simp [jinit] at hb'⟩, jinit_inv cfg t0 hsz, by simpa [jinit] using hT, rfl,
     Nat.le_refl _, Nat.le_add_right _ _, fun _ hb' => by simp [jinit] at hb'⟩
  have h := r_run τ cfg acts _ s t0 now t0 lt h0 hr
  have hcfg : s.cfg = cfg := h.cfgEq
  have hfr := h.fresh hrun hb
  have hnear := h.near
  rw [hcfg] at hfr
  exact ⟨by omega, (h.f.oldest hrun hb).2⟩

/-- **C10 (the bound, with the ticker period of the library).** If the ticker period `τ`
    satisfies `τ * d ≤ Timeout` (what `calcInterruptInterval` guarantees with
    `d = ⌊100 / TimeoutInaccuracy⌋`, theorems `c10_interval_v2` / `c10_interval_v1`), no element
    stays longer than `Timeout * (1 + 1/d)`. -/
theorem c10_residence_div (cfg : JCfg) (t0 τ d : Nat) (hsz : 0 < cfg.size) (hT : 0 < cfg.timeout)
    (hd : 0 < d) (hτ : τ * d ≤ cfg.timeout)
    (acts : List JAct) (s : JSt) (now lt : Nat)
    (hr : denseRun τ (jinit cfg t0) t0 t0 acts = some (s, now, lt)) (hrun : s.pc = .run) (hb : s.buf ≠ []) :
    now - s.firstAt < cfg.timeout + cfg.timeout / d := by
  obtain ⟨h1, h2⟩ := c10_residence cfg t0 τ hsz hT acts s now lt hr hrun hb
  have hq : τ ≤ cfg.timeout / d := (Nat.le_div_iff_mul_le hd).2 hτ
  omega

/-! Non-vacuity: a slow trickle (Timeout 100, ticker period 35, one element every 40): the run is
    dense, elements are still buffered at reading 95 (the oldest accepted at 10), and the firing at
    125 flushes them. -/
example :
    (denseRun 35 (jinit ⟨.join, 10, 100, false, false⟩ 0) 0 0
      [.item 1 [1] 10, .tick 30, .item 2 [2] 50, .tick 60, .item 3 [3] 90, .tick 95]).map
      (fun r => (r.1.buf, r.1.firstAt, r.2)) = some ([1, 2, 3], 10, 95, 95) := by decide +kernel
example :
    (denseRun 35 (jinit ⟨.join, 10, 100, false, false⟩ 0) 0 0
      [.item 1 [1] 10, .tick 30, .item 2 [2] 50, .tick 60, .item 3 [3] 90, .tick 95, .tick 125]).map
      (fun r => (r.1.out, r.1.buf)) = some ([[1, 2, 3]], []) := by decide +kernel
/-- a run whose firings are too sparse is not a dense run (the hypothesis has content) -/
example :
    denseRun 35 (jinit ⟨.join, 10, 100, false, false⟩ 0) 0 0 [.item 1 [1] 10, .tick 30, .tick 70] = none := by decide +kernel

end Cqos.C10
