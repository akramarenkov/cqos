import Cqos.Props.C06
import Cqos.Props.C07
import Cqos.Lemmas.StepEffect
/-
  Property C06, second clause: "when nothing is in flight and some input has data, an item is
  delivered without any release being needed".

  `c06_phase1_delivers`: inside the first `prioritize` of a round a priority still ahead (`Ahead`)
  gets its head item delivered by the discipline's own poll actions alone.  `idle_delivers`: so it
  is for a round that starts with nothing in flight, in any state of either version;
  `c06_idle_delivers` is the instance for the states a v2 discipline can reach.
-/
namespace Cqos.C06

/-- what the argument needs to know about `p` while other priorities are being polled -/
structure Ahead (s : St) (p : Nat) (inp : Input) (x : Nat) (rest : List Nat) : Prop where
  pc : s.pc = .prio 1 rest
  mem : p ∈ rest
  input : alGet s.inputs p = some inp
  undrained : inp.drained = false
  allot : 0 < s.tactic.get p
  head : ∃ ch q, alGet s.chans inp.chan = some ch ∧ ch.queue = x :: q
  alone : ∀ q' ∈ rest, q' ≠ p → ∀ inp', alGet s.inputs q' = some inp' → inp'.chan ≠ inp.chan
  chansOK : ∀ q' inp', alGet s.inputs q' = some inp' → (alGet s.chans inp'.chan).isSome

theorem Ahead.rest {s u : St} {p : Nat} {inp : Input} {x q : Nat} {rest : List Nat} (h : Ahead s p inp x (q :: rest))
    (hqp : q ≠ p) (hpc : u.pc = .prio 1 rest) (hi : u.inputs = s.inputs) (hc : u.chans = s.chans)
    (ht : u.tactic = s.tactic) : Ahead u p inp x rest :=
  ⟨hpc, (List.mem_cons.1 h.mem).resolve_left (Ne.symm hqp), hi ▸ h.input, h.undrained, ht ▸ h.allot, hc ▸ h.head,
   fun q' hq' => hi ▸ h.alone q' (List.mem_cons_of_mem _ hq'), hi ▸ hc ▸ h.chansOK⟩

/-- the head priority `q ≠ p` is dealt with by poll actions alone, leaving `p`'s situation intact -/
theorem skip_one (div : DivFn) (p : Nat) (inp : Input) (x : Nat) (q : Nat) (rest : List Nat) (hqp : q ≠ p) :
    ∀ (n : Nat) (s : St), s.tactic.get q ≤ n → Ahead s p inp x (q :: rest) →
      ∃ acts s', run div s acts = some s' ∧ Ahead s' p inp x rest ∧ acts.length + s'.tactic.total ≤ s.tactic.total + 1 ∧
        (∃ dl, s'.delivered = s.delivered ++ dl) ∧ (∀ a ∈ acts, isOwn a = true) := by
  intro n
  induction n with
  | zero =>
    intro s hn h
    rcases poll_next div 1 rest (h.chansOK q) with ho | ⟨_, _, hP, _⟩
    · exact ⟨[.skip], _, run_cons_iff.2 ⟨_, .own h.pc ho, rfl⟩, h.rest hqp rfl rfl rfl rfl, Nat.le_of_eq (Nat.add_comm _ _),
        ⟨[], (List.append_nil _).symm⟩, List.forall_mem_singleton.2 rfl⟩
    · exact absurd (Nat.le_zero.1 hn) hP.share
  | succ n ih =>
    intro s hn h
    have one : ∀ {a : Act} {u : St}, Own div s (.prio 1 (q :: rest)) a u → isOwn a = true → Ahead u p inp x rest →
        u.tactic = s.tactic → u.delivered = s.delivered →
        ∃ acts s', run div s acts = some s' ∧ Ahead s' p inp x rest ∧ acts.length + s'.tactic.total ≤ s.tactic.total + 1 ∧
          (∃ dl, s'.delivered = s.delivered ++ dl) ∧ (∀ a ∈ acts, isOwn a = true) :=
      fun {a u} ho hown hA ht hd => ⟨[a], u, run_cons_iff.2 ⟨u, .own h.pc ho, rfl⟩, hA,
        by rw [ht]; exact Nat.le_of_eq (Nat.add_comm _ _), ⟨[], by rw [hd, List.append_nil]⟩, List.forall_mem_singleton.2 hown⟩
    rcases poll_next div 1 rest (h.chansOK q) with ho | ⟨iq, ch, hP, ⟨_, _, ho⟩ | ho | ⟨y, ys, hq, ho⟩⟩
    · exact one ho rfl (h.rest hqp rfl rfl rfl rfl) rfl rfl
    · -- pollClosed: `q`'s input is marked drained
      have sub : ∀ q' inp', alGet (alSet s.inputs q { iq with drained := true }) q' = some inp' →
          ∃ i0, alGet s.inputs q' = some i0 ∧ i0.chan = inp'.chan := by
        intro q' inp' hin'
        rw [alGet_alSet] at hin'
        split at hin'
        · rename_i e; subst e; cases hin'; exact ⟨iq, hP.input, rfl⟩
        · exact ⟨inp', hin', rfl⟩
      refine one ho rfl ⟨rfl, (List.mem_cons.1 h.mem).resolve_left (Ne.symm hqp), ?_, h.undrained, h.allot, h.head, ?_, ?_⟩ rfl rfl
      · show alGet (alSet s.inputs q _) p = some inp
        rw [alGet_alSet, if_neg hqp]; exact h.input
      · intro q' hq' hne' inp' hin'
        obtain ⟨i0, h0, e0⟩ := sub q' inp' hin'
        exact e0 ▸ h.alone q' (List.mem_cons_of_mem _ hq') hne' i0 h0
      · intro q' inp' hin'
        obtain ⟨i0, h0, e0⟩ := sub q' inp' hin'
        exact e0 ▸ h.chansOK q' i0 h0
    · exact one ho rfl (h.rest hqp rfl rfl rfl rfl) rfl rfl
    · -- pollItem: one item of `q` is delivered, its allotment decreases, `q` stays at the head
      have hne : iq.chan ≠ inp.chan := h.alone q (by simp) hqp iq hP.input
      have hts := Dist.total_set_pred hP.share
      let s1 : St := { s with
        chans := alSet s.chans iq.chan { ch with queue := ys },
        taken := s.taken ++ [(iq.chan, y)],
        delivered := s.delivered ++ [(q, iq.chan, y)],
        tactic := s.tactic.set q (s.tactic.get q - 1),
        actual := s.actual.add q 1,
        inflight := s.inflight.add q 1,
        processed := s.processed + 1 }
      obtain ⟨acts, s', hr, ha, hl, ⟨dl, hd⟩, hown⟩ := ih s1
        (show (s.tactic.set q (s.tactic.get q - 1)).get q ≤ n by rw [Dist.get_set, if_pos rfl]; exact Nat.sub_le_of_le_add hn)
        ⟨h.pc, h.mem, h.input, h.undrained,
          show 0 < (s.tactic.set q (s.tactic.get q - 1)).get p by rw [Dist.get_set, if_neg hqp]; exact h.allot,
          by obtain ⟨c, qq, hc1, hc2⟩ := h.head
             exact ⟨c, qq, by show alGet (alSet s.chans iq.chan _) inp.chan = some c
                              rw [alGet_alSet, if_neg hne]; exact hc1, hc2⟩,
          h.alone,
          fun q' inp' hin' => by
            show (alGet (alSet s.chans iq.chan _) inp'.chan).isSome
            rw [alGet_alSet]; split
            · rfl
            · exact h.chansOK q' inp' hin'⟩
      refine ⟨.pollItem :: acts, s', run_cons_iff.2 ⟨_, .own h.pc ho, hr⟩, ha, ?_,
        ⟨(q, iq.chan, y) :: dl, by rw [hd]; exact List.append_assoc ..⟩, List.forall_mem_cons.2 ⟨rfl, hown⟩⟩
      simp only [List.length_cons]
      change acts.length + s'.tactic.total ≤ (s.tactic.set q (s.tactic.get q - 1)).total + 1 at hl
      omega

/-- **C06 (phase 1 delivers the head item of every priority ahead that has data and an
    allotment)** by the discipline's own poll actions, at most (total allotment) + (priorities
    ahead) of them. -/
theorem c06_phase1_delivers (div : DivFn) (p : Nat) (inp : Input) (x : Nat) :
    ∀ (rest : List Nat) (s : St), Ahead s p inp x rest →
      ∃ acts s', run div s acts = some s' ∧ (∃ dl, s'.delivered = s.delivered ++ dl ∧ (p, inp.chan, x) ∈ dl) ∧
        acts.length ≤ s.tactic.total + rest.length ∧ (∀ a ∈ acts, isOwn a = true) := by
  intro rest
  induction rest with
  | nil => intro s h; exact absurd h.mem (by simp)
  | cons q rest ih =>
    intro s h
    by_cases hqp : q = p
    · subst hqp
      obtain ⟨ch, qq, hc1, hc2⟩ := h.head
      have hP : Polls s q inp ch := ⟨h.input, h.undrained, Nat.pos_iff_ne_zero.1 h.allot, hc1⟩
      exact ⟨[.pollItem], _, run_cons_iff.2 ⟨_, .own h.pc (.pollItem hP hc2), rfl⟩, ⟨[(q, inp.chan, x)], rfl, by simp⟩,
        Nat.le_trans (Nat.le_add_left 1 rest.length) (Nat.le_add_left _ _), List.forall_mem_singleton.2 rfl⟩
    · obtain ⟨a1, s1, hr1, h1, hl1, ⟨d1, hd1⟩, ho1⟩ := skip_one div p inp x q rest hqp (s.tactic.get q) s (Nat.le_refl _) h
      obtain ⟨a2, s2, hr2, ⟨d2, hd2, hm2⟩, hl2, ho2⟩ := ih s1 h1
      refine ⟨a1 ++ a2, s2, run_append_iff.2 ⟨s1, hr1, hr2⟩,
        ⟨d1 ++ d2, by rw [hd2, hd1, List.append_assoc], List.mem_append_right _ hm2⟩, ?_,
        List.forall_mem_append.2 ⟨ho1, ho2⟩⟩
      simp only [List.length_append, List.length_cons]
      omega

theorem v2_inputs_own_chan_step {div : DivFn} {s s' : St} {a : Act} (hv : s.cfg.v1 = false)
    (h : ∀ p inp, alGet s.inputs p = some inp → inp.chan = p) (hs : Step div s a s') :
    ∀ p inp, alGet s'.inputs p = some inp → inp.chan = p := by
  cases hs with
  | own _ ho =>
    cases ho with
    | topAdd hv' | topRemove hv' => rw [hv] at hv'; cases hv'
    | «calc» => rw [stepCalc_eq]; exact h
    | recalc => rw [stepRecalc_eq]; exact h
    | consume _ _ hk =>
      cases hk with
      | waitFb => rw [afterWaitFb_eq]; exact h
      | _ => exact h
    | @pollClosed _ p _ inp _ hP _ _ =>
      intro q inp' hq
      have hq' : alGet (alSet s.inputs p { inp with drained := true }) q = some inp' := hq
      rw [alGet_alSet] at hq'
      split at hq'
      · rename_i e; subst e; cases hq'; exact h p inp hP.input
      · exact h q inp' hq'
    | _ => exact h
  | _ => exact h

/-- every priority of a v2 discipline reads from the channel it was created with (its own) -/
theorem v2_inputs_own_chan (div : DivFn) (keys : List (Nat × Bool)) (H : Nat) (s0 s : St) (acts : List Act)
    (h0 : initV2 div keys H = .ok s0) (hr : run div s0 acts = some s) :
    ∀ p inp, alGet s.inputs p = some inp → inp.chan = p := by
  refine (run_induction (div := div)
    (I := fun u => u.cfg.v1 = false ∧ ∀ p inp, alGet u.inputs p = some inp → inp.chan = p)
    (fun {u a u1} ⟨hv, h⟩ ht => ⟨by rw [ht.cfg_eq]; exact hv, v2_inputs_own_chan_step hv h ht⟩) ?_ hr).2
  obtain ⟨_, _, rfl⟩ := initV2_ok h0
  exact ⟨rfl, fun p inp hp => by rw [(alGet_mkInputs keys p inp hp).1]⟩

/-- `calcTactic` allots every share (`c06_calc_idle`), then phase 1 (`c06_phase1_delivers`); about
    any state, of either version -/
theorem idle_delivers (div : DivFn) (s : St) (hinv : Inv s) (hwf : C15.WF s)
    (hok : ∀ p inp, alGet s.inputs p = some inp → (alGet s.chans inp.chan).isSome)
    (hpc : s.pc = .calc) (hidle : s.actual.total = 0) (hsum : sumOver s.prios s.strategic = s.cfg.H) (hH : 0 < s.cfg.H)
    (p : Nat) (inp : Input) (hin : alGet s.inputs p = some inp) (hud : inp.drained = false)
    (hshare : 1 ≤ s.strategic.get p)
    (halone : ∀ q' inp', alGet s.inputs q' = some inp' → q' ≠ p → inp'.chan ≠ inp.chan)
    (ch : Chan) (x : Nat) (q : List Nat) (hch : alGet s.chans inp.chan = some ch) (hq : ch.queue = x :: q) :
    ∃ acts' s', run div s (.calc :: acts') = some s' ∧
      (∃ dl, s'.delivered = s.delivered ++ dl ∧ (p, inp.chan, x) ∈ dl) ∧
      acts'.length ≤ s.cfg.H + s.prios.length ∧ (∀ a ∈ acts', isOwn a = true) := by
  obtain ⟨hpc', htac⟩ := c06_calc_idle div s hsum hH hidle
  have hmem : p ∈ s.prios := (hwf.regs p).2 (by rw [hin]; rfl)
  have hstep : Step div s .calc (stepCalc div s) := .own hpc .calc
  have hA : Ahead (stepCalc div s) p inp x s.prios := by
    refine ⟨hpc', hmem, ?_, hud, by rw [htac p hmem]; omega, ⟨ch, q, ?_, hq⟩, ?_, ?_⟩ <;> rw [stepCalc_eq]
    · exact hin
    · exact hch
    · exact fun q' _ hne inp' hq' => halone q' inp' hq' hne
    · exact hok
  obtain ⟨acts', s', hr', hd', hl', ho'⟩ := c06_phase1_delivers div p inp x s.prios (stepCalc div s) hA
  -- the total allotment is at most H
  have hcap := (C01.step_inv hinv hstep).cap
  rw [hpc'] at hcap
  rw [stepCalc_eq] at hd' hl' hcap
  refine ⟨acts', s', run_cons_iff.2 ⟨_, hstep, hr'⟩, hd', ?_, ho'⟩
  simp only [capOk] at hcap
  change _ ≤ (stepCalc div s).tactic.total + _ at hl'
  omega

/-- **C06 (nothing in flight, an input has data ⇒ its head item is delivered, no release needed).**
    After ANY run of a v2 discipline (shares adding up to `H`): if the discipline is about to
    compute a round with nothing in flight, every registered, undrained priority whose channel has
    an item at its head gets that item delivered by the discipline's own steps alone — `calcTactic`
    and at most `H + n` poll actions. -/
theorem c06_idle_delivers (div : DivFn) (keys : List (Nat × Bool)) (H : Nat) (hH : 0 < H)
    (hnd : (keys.map (·.1)).Nodup) (s0 s : St) (acts : List Act) (h0 : initV2 div keys H = .ok s0)
    (hsum : sumOver s0.prios s0.strategic = H) (hr : run div s0 acts = some s)
    (hpc : s.pc = .calc) (hidle : s.actual.total = 0)
    (p : Nat) (inp : Input) (hin : alGet s.inputs p = some inp) (hud : inp.drained = false)
    (ch : Chan) (x : Nat) (q : List Nat) (hch : alGet s.chans inp.chan = some ch) (hq : ch.queue = x :: q) :
    ∃ acts' s', run div s (.calc :: acts') = some s' ∧
      (∃ dl, s'.delivered = s.delivered ++ dl ∧ (p, inp.chan, x) ∈ dl) ∧
      acts'.length ≤ H + s.prios.length ∧ (∀ a ∈ acts', isOwn a = true) := by
  obtain ⟨ht, hinv, hwf, hcfg⟩ := C07.reach_initV2 hnd h0 hr
  obtain ⟨c1, c2, _, _⟩ := C07.v2_static_run div acts s0 s (initV2_v1 h0) hr
  have hown := v2_inputs_own_chan div keys H s0 s acts h0 hr
  have hHs : s.cfg.H = H := by rw [hcfg, initV2_H h0]
  have hmem : p ∈ s.prios := (hwf.regs p).2 (by rw [hin]; rfl)
  have := idle_delivers div s hinv hwf ht.chansOK hpc hidle (by rw [c1, c2, hHs]; exact hsum) (by rw [hHs]; exact hH)
    p inp hin hud (by rw [c2]; exact initV2_share h0 p (c1 ▸ hmem))
    (fun q' inp' hq' hne => by rw [hown q' inp' hq', hown p inp hin]; exact hne) ch x q hch hq
  rwa [hHs] at this

end Cqos.C06
