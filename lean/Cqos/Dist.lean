/-
  Go `map[uint]uint` as an association list.

  Key *presence* is observable in the Go code (`IsDistributionFilled`, `resetTactic`,
  `isZeroActual`, `clearActual` range over the keys that are present), so `add k 0`
  creates the key exactly like `m[k] += 0` does in Go.

  All operations act on the FIRST occurrence of a key; every `Dist` built from `[]`
  with `add`/`set` is duplicate free, but no lemma below needs that.
-/
namespace Cqos

abbrev Dist := List (Nat × Nat)

namespace Dist

def get : Dist → Nat → Nat
  | [], _ => 0
  | (k', v) :: r, k => if k' = k then v else get r k

def has : Dist → Nat → Bool
  | [], _ => false
  | (k', _) :: r, k => if k' = k then true else has r k

/-- `m[k] += v` (creates the key). -/
def add : Dist → Nat → Nat → Dist
  | [], k, v => [(k, v)]
  | (k', v') :: r, k, v => if k' = k then (k', v' + v) :: r else (k', v') :: add r k v

/-- `m[k] = v` (creates the key). -/
def set : Dist → Nat → Nat → Dist
  | [], k, v => [(k, v)]
  | (k', v') :: r, k, v => if k' = k then (k', v) :: r else (k', v') :: set r k v

/-- `delete(m, k)`. -/
def erase : Dist → Nat → Dist
  | [], _ => []
  | (k', v') :: r, k => if k' = k then r else (k', v') :: erase r k

def total : Dist → Nat
  | [] => 0
  | (_, v) :: r => v + total r

/-- `common.IsDistributionFilled`: every PRESENT key has a non-zero value. -/
def filled : Dist → Bool
  | [] => true
  | (_, v) :: r => v != 0 && filled r

/-- `resetTactic`: every present key is set to zero (keys stay). -/
def zeroAll : Dist → Dist
  | [] => []
  | (k, _) :: r => (k, 0) :: zeroAll r

/-- `isZeroActual`. -/
def allZero : Dist → Bool
  | [] => true
  | (_, v) :: r => v == 0 && allZero r

def keys (m : Dist) : List Nat := m.map (·.1)

/-- insertion sort by key, used only for canonical printing -/
def insertSorted (kv : Nat × Nat) : Dist → Dist
  | [] => [kv]
  | x :: r => if kv.1 ≤ x.1 then kv :: x :: r else x :: insertSorted kv r

def sorted (m : Dist) : Dist := m.foldr insertSorted []

@[simp] theorem get_nil (k : Nat) : get [] k = 0 := rfl
@[simp] theorem total_nil : total [] = 0 := rfl

theorem get_set (m : Dist) (k v k2 : Nat) :
    get (set m k v) k2 = if k = k2 then v else get m k2 := by
  fun_induction set m k v <;> grind [get]

theorem total_set (m : Dist) (k v : Nat) : total (set m k v) + get m k = total m + v := by
  fun_induction set m k v with
  | case1 k v => simp only [total, get, Nat.add_zero, Nat.zero_add]
  | case2 => simp only [total, get, if_pos]; omega
  | case3 k' v' r k v h ih => simp only [total, get, if_neg h]; rw [Nat.add_assoc, ih, Nat.add_assoc]

theorem add_eq_set (m : Dist) (k v : Nat) : add m k v = set m k (get m k + v) := by
  fun_induction add m k v <;> simp_all [set, get]

@[simp] theorem total_add (m : Dist) (k v : Nat) : total (add m k v) = total m + v := by
  have := total_set m k (get m k + v); rw [add_eq_set]; omega

theorem get_add (m : Dist) (k v k2 : Nat) :
    get (add m k v) k2 = get m k2 + (if k = k2 then v else 0) := by
  rw [add_eq_set, get_set]; split <;> simp_all

theorem get_le_total (m : Dist) (k : Nat) : get m k ≤ total m := by
  fun_induction get m k with
  | case1 => exact Nat.le_refl _
  | case2 => exact Nat.le_add_right _ _
  | case3 _ _ _ _ _ ih => exact Nat.le_trans ih (Nat.le_add_left _ _)

theorem total_set_pred {m : Dist} {k : Nat} (h : get m k ≠ 0) : total (set m k (get m k - 1)) + 1 = total m := by
  have := total_set m k (get m k - 1)
  omega

theorem total_erase (m : Dist) (k : Nat) : total (erase m k) + get m k = total m := by
  fun_induction erase m k with
  | case1 => rfl
  | case2 k' v' r => simp only [total, get, if_pos]; rw [Nat.add_comm]
  | case3 k' v' r k h ih => simp only [total, get, if_neg h]; rw [Nat.add_assoc, ih]

@[simp] theorem total_zeroAll (m : Dist) : total (zeroAll m) = 0 := by
  fun_induction zeroAll m <;> simp_all [total]

@[simp] theorem get_zeroAll (m : Dist) (k : Nat) : get (zeroAll m) k = 0 := by
  fun_induction zeroAll m <;> simp_all [get]

theorem keys_zeroAll (m : Dist) : m.zeroAll.map (·.1) = m.map (·.1) := by
  fun_induction zeroAll m <;> simp_all

theorem allZero_iff_total (m : Dist) : allZero m = true ↔ total m = 0 := by
  fun_induction allZero m <;> simp_all [total]

end Dist
end Cqos
